import TexSoupModel.Edit
import TexSoupProofs.NavPathLemmas
/-!
# Edit lemmas: serialisation frames and offsets

How `ser`/`serL` decompose around a node named by a `Path` (`ser e = A ++ (ser y ++ B)`), how
`updAt`/`editHolder` act inside such a frame, and the character offsets (`offAt`, `offAtRoot`,
`insOff`, `insOffRoot`) that the property files C05/C14/C15 speak of.

A `Step` addresses an element of a *holder*: the node's own contents or the contents of one of
its arguments (`holderList`). Every edit of a node one step down puts a new list into a holder
(`setHolder`), so the facts about `editHolder` and `updAt` are facts about `setHolder`.
-/
namespace TexSoup.Edit

/-- The reference splice on strings: replace `len` characters at offset `k` by `new`. -/
def splice {α : Type} (s : List α) (k len : Nat) (new : List α) : List α :=
  s.take k ++ (new ++ s.drop (k + len))

theorem splice_frame {α : Type} (A M B M' : List α) :
    splice (A ++ (M ++ B)) A.length M.length M' = A ++ (M' ++ B) := by
  unfold splice
  rw [List.take_left' rfl, ← List.append_assoc A M B,
    List.drop_left' (by simp)]

theorem frame_splice {α : Type} {s s' A M B M' : List α} {k : Nat}
    (h : s = A ++ (M ++ B)) (h' : s' = A ++ (M' ++ B)) (hk : A.length = k) :
    s' = splice s k M.length M' := by
  subst h h' hk; exact (splice_frame A M B M').symm


theorem serL_singleton (e : Expr) : serL [e] = ser e := by simp

/-- Replace `d` elements at index `j` of a list by `ns`. All structural edits are of this
form (`delete`: `d = 1`, `ns = []`; `replace`: `d = 1`; `insert`/`append`: `d = 0`). -/
def spliceList (j d : Nat) (ns l : List Expr) : List Expr := l.take j ++ (ns ++ l.drop (j + d))

theorem serL_split (l : List Expr) (j d : Nat) :
    serL l = serL (l.take j) ++ (serL ((l.drop j).take d) ++ serL (l.drop (j + d))) := by
  rw [← serL_append, ← serL_append]
  congr 1
  rw [← List.drop_drop, List.take_append_drop, List.take_append_drop]

theorem serL_spliceList (l ns : List Expr) (j d : Nat) :
    serL (spliceList j d ns l) = serL (l.take j) ++ (serL ns ++ serL (l.drop (j + d))) := by
  simp [spliceList, serL_append]

theorem take_one_drop {l : List Expr} {j : Nat} {x : Expr} (h : l[j]? = some x) :
    (l.drop j).take 1 = [x] := by
  obtain ⟨hj, rfl⟩ := List.getElem?_eq_some_iff.mp h
  rw [List.drop_eq_getElem_cons hj]
  rfl

theorem set_eq_spliceList {l : List Expr} {j : Nat} (x' : Expr) (hj : j < l.length) :
    l.set j x' = spliceList j 1 [x'] l := by
  unfold spliceList
  rw [List.set_eq_take_append_cons_drop, if_pos hj]; rfl

theorem insertAt_min (i : Nat) (ns l : List Expr) :
    insertAt i ns l = insertAt (min i l.length) ns l := by
  unfold insertAt
  rcases Nat.le_total i l.length with h | h
  · rw [Nat.min_eq_left h]
  · rw [Nat.min_eq_right h, List.take_of_length_le h, List.drop_eq_nil_of_le h]; simp

def _root_.TexSoup.Expr.hasBody : Expr → Bool
  | .text _ _ => false
  | _ => true

def _root_.TexSoup.Expr.hasArgs : Expr → Bool
  | .cmd _ _ _ _ | .nenv _ _ _ _ => true
  | _ => false

def bodyPre : Expr → Str
  | .text s _ => s
  | .cmd name args _ _ => 92 :: (name ++ serL args)
  | .nenv name args _ _ => strBegin ++ (name ++ (125 :: serL args))
  | .math k _ _ => k.open
  | .group k _ _ => k.open

def bodyPost : Expr → Str
  | .text _ _ => []
  | .cmd _ _ _ _ => []
  | .nenv name _ _ _ => strEnd ++ (name ++ [125])
  | .math k _ _ => k.close
  | .group k _ _ => k.close

def argsPre : Expr → Str
  | .cmd name _ _ _ => 92 :: name
  | .nenv name _ _ _ => strBegin ++ (name ++ [125])
  | _ => []

def argsPost : Expr → Str
  | .cmd _ _ body _ => serL body
  | .nenv name _ body _ => serL body ++ (strEnd ++ (name ++ [125]))
  | _ => []

theorem ser_setBody (e : Expr) (b : List Expr) (h : e.hasBody = true) :
    ser (e.setBody b) = bodyPre e ++ (serL b ++ bodyPost e) := by
  cases e with
  | text _ _ => cases h
  | _ => simp [ser, bodyPre, bodyPost, Expr.setBody]

theorem setBody_body (e : Expr) : e.setBody e.body = e := by cases e <;> rfl

theorem setArgs_args (e : Expr) : e.setArgs e.args = e := by cases e <;> rfl

theorem ser_body (e : Expr) (h : e.hasBody = true) :
    ser e = bodyPre e ++ (serL e.body ++ bodyPost e) := by
  rw [← ser_setBody e e.body h, setBody_body]

theorem ser_setArgs (e : Expr) (a : List Expr) (h : e.hasArgs = true) :
    ser (e.setArgs a) = argsPre e ++ (serL a ++ argsPost e) := by
  cases e with
  | cmd _ _ _ _ | nenv _ _ _ _ => simp [ser, argsPre, argsPost, Expr.setArgs]
  | _ => cases h

theorem ser_args (e : Expr) (h : e.hasArgs = true) :
    ser e = argsPre e ++ (serL e.args ++ argsPost e) := by
  rw [← ser_setArgs e e.args h, setArgs_args]

theorem bodyPre_eq_args (e : Expr) (h : e.hasArgs = true) :
    bodyPre e = argsPre e ++ serL e.args := by
  cases e <;> simp_all [Expr.hasArgs, bodyPre, argsPre, Expr.args]

theorem hasBody_of_body_get {e : Expr} {j : Nat} {x : Expr} (h : e.body[j]? = some x) :
    e.hasBody = true := by
  cases e with
  | text _ _ => simp [Expr.body] at h
  | _ => rfl

theorem hasArgs_of_args_get {e : Expr} {i : Nat} {a : Expr} (h : e.args[i]? = some a) :
    e.hasArgs = true := by
  cases e with
  | cmd _ _ _ _ | nenv _ _ _ _ => rfl
  | _ => simp [Expr.args] at h

theorem hasBody_of_supportsContents {e : Expr} (h : e.supportsContents = true) :
    e.hasBody = true := by
  cases e with
  | text _ _ => cases h
  | _ => rfl

@[simp] theorem body_setBody (e : Expr) (b : List Expr) (h : e.hasBody = true) :
    (e.setBody b).body = b := by
  cases e with
  | text _ _ => cases h
  | _ => rfl

@[simp] theorem args_setBody (e : Expr) (b : List Expr) : (e.setBody b).args = e.args := by
  cases e <;> rfl

@[simp] theorem args_setArgs (e : Expr) (a : List Expr) (h : e.hasArgs = true) :
    (e.setArgs a).args = a := by
  cases e with
  | cmd _ _ _ _ | nenv _ _ _ _ => rfl
  | _ => cases h

@[simp] theorem body_setArgs (e : Expr) (a : List Expr) : (e.setArgs a).body = e.body := by
  cases e <;> rfl

@[simp] theorem hasBody_setBody (e : Expr) (b : List Expr) : (e.setBody b).hasBody = e.hasBody := by
  cases e <;> rfl

def _root_.TexSoup.Step.idx : Step → Nat
  | .arg _ j => j
  | .body j => j

def _root_.TexSoup.Step.withIdx : Step → Nat → Step
  | .arg i _, j => .arg i j
  | .body _, j => .body j

def _root_.TexSoup.Step.sameHolder : Step → Step → Bool
  | .arg i _, .arg i' _ => i == i'
  | .body _, .body _ => true
  | _, _ => false

def holderList (e : Expr) : Step → Option (List Expr)
  | .body _ => if e.hasBody then some e.body else none
  | .arg i _ => match e.args[i]? with
    | some a => if a.hasBody then some a.body else none
    | none => none

/-- Number of characters of `ser e` before the contents of the holder addressed by `st`. -/
def hOff (e : Expr) : Step → Option Nat
  | .body _ => if e.hasBody then some (bodyPre e).length else none
  | .arg i _ => match e.args[i]? with
    | some a => if a.hasBody then
        some ((argsPre e).length + (serL (e.args.take i)).length + (bodyPre a).length) else none
    | none => none

def setHolder (e : Expr) : Step → List Expr → Expr
  | .body _, l' => e.setBody l'
  | .arg i _, l' => match e.args[i]? with
    | some a => e.setArgs (e.args.set i (a.setBody l'))
    | none => e

theorem holderList_inv {e : Expr} {st : Step} {l : List Expr} (h : holderList e st = some l) :
    (∃ j, st = .body j ∧ e.hasBody = true ∧ l = e.body) ∨
    ∃ i j a, st = .arg i j ∧ e.args[i]? = some a ∧ a.hasBody = true ∧ l = a.body := by
  cases st with
  | body j =>
    simp only [holderList] at h
    split at h
    · exact Or.inl ⟨j, rfl, ‹_›, (Option.some.inj h).symm⟩
    · cases h
  | arg i j =>
    simp only [holderList] at h
    split at h
    · split at h
      · exact Or.inr ⟨i, j, _, rfl, ‹_›, ‹_›, (Option.some.inj h).symm⟩
      · cases h
    · cases h

theorem editHolder_eq {e : Expr} {st : Step} {l : List Expr} (h : holderList e st = some l)
    (g : Nat → List Expr → Option (List Expr)) :
    editHolder e st g = (g st.idx l).map (setHolder e st) := by
  rcases holderList_inv h with ⟨j, rfl, _, rfl⟩ | ⟨i, j, a, rfl, ha, _, rfl⟩
  · simp only [editHolder, Step.idx]; cases g j e.body <;> rfl
  · simp only [editHolder, Step.idx, ha]; cases g j a.body <;> simp only [Option.map, setHolder, ha]

theorem holderList_setHolder {e : Expr} {st : Step} {l : List Expr} (h : holderList e st = some l)
    (l' : List Expr) : holderList (setHolder e st l') st = some l' := by
  rcases holderList_inv h with ⟨j, rfl, hb, rfl⟩ | ⟨i, j, a, rfl, ha, hb, rfl⟩
  · simp [holderList, setHolder, hb]
  · have hi : i < e.args.length := (List.getElem?_eq_some_iff.mp ha).1
    simp only [holderList, setHolder, ha, args_setArgs _ _ (hasArgs_of_args_get ha),
      List.getElem?_set_self hi, hasBody_setBody, hb, if_true, body_setBody]

theorem holder_frame {e : Expr} {st : Step} {l : List Expr} (h : holderList e st = some l) :
    ∃ C D, ser e = C ++ (serL l ++ D) ∧ hOff e st = some C.length ∧
      ∀ l', ser (setHolder e st l') = C ++ (serL l' ++ D) := by
  rcases holderList_inv h with ⟨j, rfl, hb, rfl⟩ | ⟨i, j, a, rfl, ha, hb, rfl⟩
  · exact ⟨bodyPre e, bodyPost e, ser_body e hb, by simp [hOff, hb], fun l' => ser_setBody e l' hb⟩
  · have hA := hasArgs_of_args_get ha
    have hi : i < e.args.length := (List.getElem?_eq_some_iff.mp ha).1
    refine ⟨argsPre e ++ (serL (e.args.take i) ++ bodyPre a),
      bodyPost a ++ (serL (e.args.drop (i + 1)) ++ argsPost e), ?_, ?_, fun l' => ?_⟩
    · rw [ser_args e hA, serL_split e.args i 1, take_one_drop ha, serL_singleton, ser_body a hb]
      simp [List.append_assoc]
    · simp [hOff, ha, hb, Nat.add_assoc]
    · simp only [setHolder, ha]
      rw [ser_setArgs _ _ hA, set_eq_spliceList _ hi, serL_spliceList, serL_singleton,
        ser_setBody a l' hb]
      simp [List.append_assoc]

theorem stepGet_holder {e : Expr} {st : Step} {x : Expr} (h : stepGet e st = some x) :
    ∃ l, holderList e st = some l ∧ l[st.idx]? = some x := by
  cases st with
  | body j => exact ⟨e.body, by simp [holderList, hasBody_of_body_get h], h⟩
  | arg i j =>
    obtain ⟨a, ha, hx⟩ := stepGet_arg_some.1 h
    exact ⟨a.body, by simp [holderList, ha, hasBody_of_body_get hx], hx⟩

theorem holderList_stepGet {e : Expr} {st : Step} {l : List Expr}
    (h : holderList e st = some l) : stepGet e st = l[st.idx]? := by
  rcases holderList_inv h with ⟨j, rfl, _, rfl⟩ | ⟨i, j, a, rfl, ha, _, rfl⟩
  · rfl
  · simp [stepGet, ha, Step.idx]

/-- Offset inside `ser e` of the child addressed by `st` (also meaningful for `st.idx` equal
to the length of the holder: the insertion point at the end). -/
def offStep (e : Expr) (st : Step) : Option Nat :=
  match hOff e st, holderList e st with
  | some k, some l => some (k + (serL (l.take st.idx)).length)
  | _, _ => none

def optAdd : Option Nat → Option Nat → Option Nat
  | some a, some b => some (a + b)
  | _, _ => none

@[simp] theorem optAdd_some (a b : Nat) : optAdd (some a) (some b) = some (a + b) := rfl
@[simp] theorem optAdd_none_left (b : Option Nat) : optAdd none b = none := by cases b <;> rfl
@[simp] theorem optAdd_none_right (a : Option Nat) : optAdd a none = none := by cases a <;> rfl
theorem optAdd_assoc (a b c : Option Nat) : optAdd (optAdd a b) c = optAdd a (optAdd b c) := by
  cases a <;> cases b <;> cases c <;> simp [Nat.add_assoc]

/-- Number of characters of `ser e` that precede the node at path `p`. -/
def offAt : Expr → Path → Option Nat
  | _, [] => some 0
  | e, st :: p => match stepGet e st with
    | some x => optAdd (offStep e st) (offAt x p)
    | none => none

/-- Offset of the insertion point `i` in container `c`: after the container's opening
part, its arguments and its first `i` body elements. -/
def insOff (c : Expr) (i : Nat) : Nat := (bodyPre c).length + (serL (c.body.take i)).length

/-- Number of characters of `serL es` (the document text) that precede the node at `p`. The
root itself (`p = []`) starts at 0; the root has no arguments. -/
def offAtRoot (es : List Expr) : Path → Option Nat
  | [] => some 0
  | .body j :: p => match es[j]? with
    | some x => optAdd (some (serL (es.take j)).length) (offAt x p)
    | none => none
  | .arg _ _ :: _ => none

/-- Offset in the document text of insertion point `i` of the container at path `c`. -/
def insOffRoot (es : List Expr) (c : Path) (i : Nat) : Option Nat :=
  match c with
  | [] => some (serL (es.take i)).length
  | _ :: _ => match getAtRoot es c with
    | some y => optAdd (offAtRoot es c) (some (insOff y i))
    | none => none

theorem updAt_cons (e : Expr) (st : Step) (p : Path) (f : Expr → Option Expr) :
    updAt e (st :: p) f = match stepGet e st with
      | some x => match updAt x p f with
        | some x' => editHolder e st (fun j l => some (l.set j x'))
        | none => none
      | none => none := by
  cases st with
  | body j =>
    simp only [updAt, stepGet, editHolder]
    cases e.body[j]? with
    | none => rfl
    | some x => simp only []; cases updAt x p f <;> rfl
  | arg i j =>
    simp only [updAt, stepGet, editHolder]
    cases e.args[i]? with
    | none => rfl
    | some a =>
      simp only []
      cases a.body[j]? with
      | none => rfl
      | some x => simp only []; cases updAt x p f <;> rfl

theorem updAt_cons_some {e e' : Expr} {st : Step} {p : Path} {f : Expr → Option Expr} :
    updAt e (st :: p) f = some e' ↔ ∃ l x x', holderList e st = some l ∧ l[st.idx]? = some x ∧
      updAt x p f = some x' ∧ setHolder e st (l.set st.idx x') = e' := by
  constructor
  · intro h
    rw [updAt_cons] at h
    split at h
    · rename_i x hx
      split at h
      · rename_i x' hx'
        obtain ⟨l, hl, hlx⟩ := stepGet_holder hx
        rw [editHolder_eq hl] at h
        exact ⟨l, x, x', hl, hlx, hx', Option.some.inj h⟩
      · cases h
    · cases h
  · rintro ⟨l, x, x', hl, hlx, hx', rfl⟩
    rw [updAt_cons, holderList_stepGet hl, hlx]
    simp only [hx', editHolder_eq hl]
    rfl

theorem updAt_frame {q : Path} : ∀ {e y : Expr}, getAt e q = some y →
    ∃ A B, ser e = A ++ (ser y ++ B) ∧ offAt e q = some A.length ∧
      ∀ (f : Expr → Option Expr) (y' : Expr), f y = some y' →
        ∃ e', updAt e q f = some e' ∧ ser e' = A ++ (ser y' ++ B) ∧ getAt e' q = some y' := by
  induction q with
  | nil =>
    intro e y h
    cases h
    exact ⟨[], [], by simp, rfl, fun f y' hf => ⟨y', hf, by simp, rfl⟩⟩
  | cons st p ih =>
    intro e y h
    obtain ⟨x, hx, h⟩ := getAt_cons_some.1 h
    obtain ⟨A1, B1, hser1, hoff1, hupd1⟩ := ih h
    obtain ⟨l, hl, hlx⟩ := stepGet_holder hx
    obtain ⟨C, D, hserC, hoffC, hset⟩ := holder_frame hl
    have hj : st.idx < l.length := (List.getElem?_eq_some_iff.mp hlx).1
    -- the frame of `y` in the child `x` (induction) inside the frame of `x` in `e`
    refine ⟨C ++ (serL (l.take st.idx) ++ A1), B1 ++ (serL (l.drop (st.idx + 1)) ++ D), ?_, ?_,
      fun f y' hf => ?_⟩
    · rw [hserC, serL_split l st.idx 1, take_one_drop hlx, serL_singleton, hser1]
      simp [List.append_assoc]
    · simp [offAt, offStep, hoffC, hl, hx, hoff1, Nat.add_assoc]
    · obtain ⟨x', hx', hserx', hget'⟩ := hupd1 f y' hf
      refine ⟨_, updAt_cons_some.2 ⟨l, x, x', hl, hlx, hx', rfl⟩, ?_, ?_⟩
      · rw [hset, set_eq_spliceList _ hj, serL_spliceList, serL_singleton, hserx']
        simp [List.append_assoc]
      · rw [getAt_cons, holderList_stepGet (holderList_setHolder hl _)]
        simp [hj, hget']

def holderSpliceF (st : Step) (d : Nat) (ns : List Expr) (e : Expr) : Option Expr :=
  editHolder e st (fun j l => if j + d ≤ l.length then some (spliceList j d ns l) else none)

theorem holderSpliceF_eq {e : Expr} {st : Step} {l : List Expr} {d : Nat} (ns : List Expr)
    (hl : holderList e st = some l) (hd : st.idx + d ≤ l.length) :
    holderSpliceF st d ns e = some (setHolder e st (spliceList st.idx d ns l)) := by
  rw [holderSpliceF, editHolder_eq hl, if_pos hd]
  rfl

theorem holderSplice_frame {e : Expr} {st : Step} {l : List Expr} (d : Nat) (ns : List Expr)
    (hl : holderList e st = some l) :
    ∃ C D, ser e = C ++ (serL ((l.drop st.idx).take d) ++ D) ∧ offStep e st = some C.length ∧
      ser (setHolder e st (spliceList st.idx d ns l)) = C ++ (serL ns ++ D) := by
  obtain ⟨C, D, hser, hoff, hset⟩ := holder_frame hl
  refine ⟨C ++ serL (l.take st.idx), serL (l.drop (st.idx + d)) ++ D, ?_, ?_, ?_⟩
  · rw [hser, serL_split l st.idx d]; simp [List.append_assoc]
  · simp [offStep, hoff, hl]
  · rw [hset, serL_spliceList]; simp [List.append_assoc]

theorem holderSpliceF_isSome {e : Expr} {st : Step} {d : Nat} {ns : List Expr} {e' : Expr}
    (h : holderSpliceF st d ns e = some e') :
    ∃ l, (match st with
      | .body _ => some e.body
      | .arg i _ => (e.args[i]?).map Expr.body) = some l ∧ st.idx + d ≤ l.length := by
  cases st with
  | body j =>
    by_cases hd : j + d ≤ e.body.length
    · exact ⟨e.body, rfl, hd⟩
    · simp [holderSpliceF, editHolder, hd] at h
  | arg i j =>
    cases ha : e.args[i]? with
    | none => simp [holderSpliceF, editHolder, ha] at h
    | some a =>
      by_cases hd : j + d ≤ a.body.length
      · exact ⟨a.body, by simp [ha], hd⟩
      · simp [holderSpliceF, editHolder, ha, hd] at h

theorem offAt_append {q : Path} : ∀ {e y : Expr} (p : Path), getAt e q = some y →
    offAt e (q ++ p) = optAdd (offAt e q) (offAt y p) := by
  induction q with
  | nil =>
    intro e y p h
    cases h
    simp only [List.nil_append, offAt]
    cases offAt e p <;> simp
  | cons st q ih =>
    intro e y p h
    obtain ⟨x, hx, h⟩ := getAt_cons_some.1 h
    simp only [List.cons_append, offAt, hx]
    rw [ih p h, optAdd_assoc]

theorem rootWrap_args (es : List Expr) : (rootWrap es).args = [] := rfl
theorem rootWrap_body (es : List Expr) : (rootWrap es).body = es := rfl

theorem stepGet_root (es : List Expr) (st : Step) :
    stepGet (rootWrap es) st = match st with
      | .body j => es[j]?
      | .arg _ _ => none := by
  cases st <;> simp [stepGet, rootWrap, Expr.args, Expr.body]

theorem getAtRoot_cons_some {es : List Expr} {st : Step} {q : Path} {y : Expr}
    (h : getAtRoot es (st :: q) = some y) :
    ∃ j x, st = .body j ∧ es[j]? = some x ∧ getAt x q = some y := by
  obtain ⟨x, hx, hq⟩ := getAt_cons_some.1 h
  rw [stepGet_root] at hx
  cases st with
  | arg i j => cases hx
  | body j => exact ⟨j, x, rfl, hx, hq⟩

theorem updAtRoot_frame {es : List Expr} {st : Step} {q : Path} {y : Expr}
    (h : getAtRoot es (st :: q) = some y) :
    ∃ A B, serL es = A ++ (ser y ++ B) ∧ offAtRoot es (st :: q) = some A.length ∧
      ∀ (f : Expr → Option Expr) (y' : Expr), f y = some y' →
        ∃ es', updAt (rootWrap es) (st :: q) f = some (rootWrap es') ∧
          serL es' = A ++ (ser y' ++ B) ∧ getAtRoot es' (st :: q) = some y' := by
  obtain ⟨j, x, rfl, hx, h⟩ := getAtRoot_cons_some h
  obtain ⟨A1, B1, hser1, hoff1, hupd1⟩ := updAt_frame h
  have hj : j < es.length := (List.getElem?_eq_some_iff.mp hx).1
  refine ⟨serL (es.take j) ++ A1, B1 ++ serL (es.drop (j + 1)), ?_, ?_, fun f y' hf => ?_⟩
  · rw [serL_split es j 1, take_one_drop hx, serL_singleton, hser1]
    simp [List.append_assoc]
  · simp [offAtRoot, hx, hoff1]
  · obtain ⟨x', hx', hserx', hget'⟩ := hupd1 f y' hf
    refine ⟨es.set j x', ?_, ?_, ?_⟩
    · simp only [updAt, rootWrap_body, hx, hx']; rfl
    · rw [set_eq_spliceList _ hj, serL_spliceList, serL_singleton, hserx']
      simp [List.append_assoc]
    · unfold getAtRoot
      rw [getAt_cons, stepGet_root]
      simp [hj, hget']

/-- Offset in the document text of the place addressed by `st` in the node at `q`. -/
def siteOffRoot (es : List Expr) (q : Path) (st : Step) : Option Nat :=
  match q with
  | [] => match st with
    | .body j => some (serL (es.take j)).length
    | .arg _ _ => none
  | _ :: _ => match getAtRoot es q with
    | some e => optAdd (offAtRoot es q) (offStep e st)
    | none => none

theorem root_holderSplice {es : List Expr} {q : Path} {e : Expr} {st : Step} {l : List Expr}
    (d : Nat) (ns : List Expr)
    (hq : getAtRoot es q = some e) (hl : holderList e st = some l) (hd : st.idx + d ≤ l.length) :
    ∃ A B, serL es = A ++ (serL ((l.drop st.idx).take d) ++ B) ∧
      siteOffRoot es q st = some A.length ∧
      ∃ es', updAt (rootWrap es) q (holderSpliceF st d ns) = some (rootWrap es') ∧
        serL es' = A ++ (serL ns ++ B) := by
  cases q with
  | nil =>
    obtain rfl : rootWrap es = e := Option.some.inj hq
    cases st with
    | arg i j => cases hl
    | body j =>
      obtain rfl : es = l := Option.some.inj hl
      exact ⟨serL (es.take j), serL (es.drop (j + d)), serL_split es j d, rfl,
        spliceList j d ns es, holderSpliceF_eq ns hl hd, serL_spliceList es ns j d⟩
  | cons s q =>
    obtain ⟨A, B, hser, hoff, hupd⟩ := updAtRoot_frame hq
    obtain ⟨C, D, hserC, hoffC, hser'⟩ := holderSplice_frame d ns hl
    obtain ⟨es', hes', hserL', _⟩ := hupd _ _ (holderSpliceF_eq ns hl hd)
    refine ⟨A ++ C, D ++ B, ?_, ?_, es', hes', ?_⟩
    · rw [hser, hserC]; simp [List.append_assoc]
    · simp [siteOffRoot, hoff, hq, hoffC]
    · rw [hserL', hser']; simp [List.append_assoc]

theorem offAtRoot_snoc {es : List Expr} {q : Path} {st : Step} {x : Expr}
    (h : getAtRoot es (q ++ [st]) = some x) :
    offAtRoot es (q ++ [st]) = siteOffRoot es q st := by
  cases q with
  | nil =>
    obtain ⟨j, _, rfl, hx, _⟩ := getAtRoot_cons_some h
    simp [offAtRoot, siteOffRoot, hx, offAt]
  | cons s q =>
    unfold getAtRoot at h
    rw [getAt_append, Option.bind_eq_some_iff] at h
    obtain ⟨e, he, h⟩ := h
    obtain ⟨j, y, rfl, hy, hq⟩ := getAtRoot_cons_some he
    rw [getAt_singleton] at h
    simp only [List.cons_append, offAtRoot, hy, siteOffRoot, getAtRoot, he]
    rw [offAt_append [st] hq, ← optAdd_assoc]
    simp [offAt, h]
    cases offStep e st <;> simp

theorem splitLast_snoc (q : Path) (st : Step) : splitLast (q ++ [st]) = some (q, st) := by
  induction q with
  | nil => rfl
  | cons t q ih =>
    cases q with
    | nil => rfl
    | cons u q => simp only [List.cons_append] at ih ⊢; simp only [splitLast, ih]

theorem splitLast_eq {p q : Path} {st : Step} (h : splitLast p = some (q, st)) : p = q ++ [st] := by
  induction p generalizing q with
  | nil => cases h
  | cons t p ih =>
    cases p with
    | nil => cases h; rfl
    | cons u p =>
      simp only [splitLast] at h
      split at h
      · rename_i q' l hq'
        cases h
        rw [ih hq']; rfl
      · cases h

theorem splitLast_nil : splitLast [] = none := rfl

theorem updAt_isSome {q : Path} {f : Expr → Option Expr} : ∀ {e e' : Expr},
    updAt e q f = some e' → ∃ y y', getAt e q = some y ∧ f y = some y' := by
  induction q with
  | nil => intro e e' h; exact ⟨e, e', rfl, h⟩
  | cons st q ih =>
    intro e e' h
    obtain ⟨l, x, x', hl, hlx, hx', _⟩ := updAt_cons_some.1 h
    obtain ⟨y, y', hy, hf⟩ := ih hx'
    exact ⟨y, y', getAt_cons_some.2 ⟨x, (holderList_stepGet hl).trans hlx, hy⟩, hf⟩

theorem updAt_eq_none {q : Path} {f : Expr → Option Expr} {e : Expr}
    (h : ∀ y, getAt e q = some y → f y = none) : updAt e q f = none := by
  cases hu : updAt e q f with
  | none => rfl
  | some e' =>
    obtain ⟨y, y', hy, hf⟩ := updAt_isSome hu
    rw [h y hy] at hf
    cases hf

theorem updAt_none {q : Path} (f : Expr → Option Expr) {e : Expr} (h : getAt e q = none) :
    updAt e q f = none :=
  updAt_eq_none (fun y hy => by rw [h] at hy; cases hy)

theorem updAt_fail {q : Path} {f : Expr → Option Expr} {e y : Expr} (h : getAt e q = some y)
    (hf : f y = none) : updAt e q f = none :=
  updAt_eq_none (fun y' hy' => by rw [h] at hy'; cases hy'; exact hf)

theorem updAt_congr {q : Path} {f g : Expr → Option Expr} : ∀ {e y : Expr},
    getAt e q = some y → f y = g y → updAt e q f = updAt e q g := by
  induction q with
  | nil => intro e y h hfg; cases h; exact hfg
  | cons st q ih =>
    intro e y h hfg
    obtain ⟨x, hx, h⟩ := getAt_cons_some.1 h
    rw [updAt_cons, updAt_cons, hx]
    simp only [ih h hfg]

theorem deleteAt_eq_replaceAt : deleteAt = replaceAt [] := by
  funext j l
  simp only [deleteAt, replaceAt, List.eraseIdx_eq_take_drop_succ, List.nil_append]

theorem editHolderG_replace {e : Expr} {st : Step} (ns : List Expr) (h : holderOK e st = true) :
    editHolderG e st (replaceAt ns) = holderSpliceF st 1 ns e := by
  simp only [editHolderG, h, if_true]
  rfl

theorem insertF_eq {e : Expr} (i : Nat) (ns : List Expr) (h : e.supportsContents = true) :
    (if e.supportsContents then some (e.setBody (insertAt i ns e.body)) else none)
      = holderSpliceF (.body (min i e.body.length)) 0 ns e := by
  rw [if_pos h, insertAt_min]
  simp [holderSpliceF, editHolder, Nat.min_le_right, insertAt, spliceList]

theorem appendF_eq {e : Expr} (ns : List Expr) (h : e.supportsContents = true) :
    (if e.supportsContents then some (e.setBody (e.body ++ ns)) else none)
      = holderSpliceF (.body e.body.length) 0 ns e := by
  rw [if_pos h]
  simp [holderSpliceF, editHolder, spliceList]

/-- The parent of the node at `p` accepts edits of the list holding that node. -/
def parentOK (es : List Expr) (p : Path) : Bool :=
  match splitLast p with
  | some (q, st) => match getAtRoot es q with
    | some e => holderOK e st
    | none => false
  | none => false

def containerOK (es : List Expr) (c : Path) : Bool :=
  match getAtRoot es c with
  | some e => e.supportsContents
  | none => false

/-- `offAtRoot` is `offAt` on the wrapped root, minus the 8 characters of the `\begin{}` that
the wrapper would print (the root is serialised with `serL`, without them). -/
theorem offAt_rootWrap (es : List Expr) (st : Step) (p : Path) :
    offAt (rootWrap es) (st :: p) = (offAtRoot es (st :: p)).map (· + 8) := by
  cases st with
  | arg i j => simp [offAt, offAtRoot, stepGet_root]
  | body j =>
    simp only [offAt, offAtRoot, stepGet_root]
    cases es[j]? with
    | none => rfl
    | some x =>
      simp only [offStep, hOff, holderList, rootWrap, Expr.hasBody, if_true, bodyPre, Expr.body,
        Step.idx, strBegin]
      cases offAt x p <;> simp [Nat.add_comm, Nat.add_left_comm]

end TexSoup.Edit
