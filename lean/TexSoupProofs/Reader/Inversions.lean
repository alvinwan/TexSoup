import TexSoupProofs.Reader.Induct
/-!
# What successful calls of `read_args`, `read_env` and its loop returned

Facts about results that several invariants use: how many arguments a signature allows, the shape
of an environment, and what the loop of `read_env` reports when it stops at an `\end`.
-/
namespace TexSoup

theorem readArgOpt_zero {g : Nat} {tol : Bool} {mode : Mode} {ts : List Tok}
    {r : (List Expr × Int) × List Tok} (h : readArgOpt g 0 tol mode ts = .ok r) : r = (([], 0), ts) := by
  cases g with
  | zero => cases h
  | succ g' =>
    unfold readArgOpt at h
    rw [if_pos (by decide)] at h
    exact (Except.ok.inj h).symm

/-- `read_arg_optional` / `read_arg_required`, called with the count `n`, returned the arguments
`gn.1` and the count `gn.2` that is left; a count that is not open (negative) stays so. -/
def CountLeft (n : Int) (gn : List Expr × Int) : Prop :=
  gn.2 = n - gn.1.length ∧ (0 ≤ n → 0 ≤ gn.2)

theorem CountLeft.stop (n : Int) : CountLeft n ([], n) := ⟨(Int.sub_zero n).symm, id⟩

theorem CountLeft.more {n : Int} {g : Expr} {gn : List Expr × Int} (h0 : ¬ (n == 0) = true)
    (i : CountLeft (n - 1) gn) : CountLeft n (g :: gn.1, gn.2) := by
  have hn : n ≠ 0 := fun h => h0 (beq_iff_eq.mpr h)
  obtain ⟨h1, h2⟩ := i
  refine ⟨?_, fun h => h2 (by omega)⟩
  simp only [List.length_cons]
  omega

theorem CountLeft.le {n : Int} {gn : List Expr × Int} (i : CountLeft n gn) (hn : 0 ≤ n) :
    (gn.1.length : Int) ≤ n := by
  have := i.2 hn
  have := i.1
  omega

theorem argCount (f : Nat) :
    (∀ nreq nopt tol mode ts args rest, readArgs f nreq nopt tol mode ts = .ok (args, rest) →
      0 ≤ nreq → 0 ≤ nopt → (args.length : Int) ≤ nreq + nopt) ∧
    (∀ n tol mode ts gn rest, readArgOpt f n tol mode ts = .ok (gn, rest) → CountLeft n gn) ∧
    (∀ n tol mode ts gn rest, readArgReq f n tol mode ts = .ok (gn, rest) → CountLeft n gn) :=
  have H := reader_induct
    (PE := fun _ _ _ _ _ _ _ => True) (PI := fun _ _ _ _ => True)
    (PME := fun _ _ _ _ _ _ _ => True) (PMB := fun _ _ _ _ _ _ => True)
    (PEnv := fun _ _ _ _ _ _ _ _ _ _ => True) (PEB := fun _ _ _ _ _ _ _ => True)
    (PC := fun _ _ _ _ _ _ _ _ => True)
    (PAs := fun _ nreq nopt _ _ _ args _ => 0 ≤ nreq → 0 ≤ nopt →
      (args.length : Int) ≤ nreq + nopt)
    (PAO := fun _ n _ _ _ gn _ => CountLeft n gn) (PAR := fun _ n _ _ _ gn _ => CountLeft n gn)
    (PA := fun _ _ _ _ _ _ _ _ => True) (PAB := fun _ _ _ _ _ _ _ => True)
    (expr_math := fun _ _ _ => trivial) (expr_item := fun _ _ _ _ _ _ _ _ => trivial)
    (expr_skipEnv := fun _ _ _ _ _ _ _ _ _ => trivial)
    (expr_env := fun _ _ _ _ _ _ _ _ _ _ => trivial)
    (expr_cmd := fun _ _ _ _ _ _ => trivial) (expr_group := fun _ _ _ _ _ => trivial)
    (expr_text := fun _ _ _ => trivial)
    (item_nil := trivial) (item_stop := fun _ _ _ _ => trivial)
    (item_close := fun _ _ => trivial) (item_step := fun _ _ _ _ _ _ => trivial)
    (mathEnv_intro := fun _ _ _ => trivial) (mathBody_nil := trivial)
    (mathBody_stop := fun _ => trivial) (mathBody_step := fun _ _ _ _ _ => trivial)
    (env_unclosed := fun _ _ _ _ => trivial) (env_closed := fun _ _ _ _ _ => trivial)
    (envBody_nil := trivial) (envBody_stop := fun _ _ _ _ => trivial)
    (envBody_step := fun _ _ _ _ _ _ => trivial)
    (command_nil := fun _ _ => trivial) (command_cons := fun _ _ => trivial)
    (args_none := fun _ hr ho => Int.add_nonneg hr ho)
    (args_run := fun _ _ i1 _ i2 p3 p4 hr ho => by
      have l3 := p3.elim (fun h => h.2.2.le (i1.2 ho)) fun h => by rw [h.2.1]; exact i1.2 ho
      have l4 := p4.elim (fun h => h.2.2.le (i2.2 hr)) fun h => by rw [h.2.1]; exact i2.2 hr
      have h1 := i1.1
      have h2 := i2.1
      clear i1 i2 p3 p4
      simp only [List.length_append]
      omega)
    (argOpt_zero := fun _ => .stop _) (argOpt_group := fun h0 _ _ _ _ _ io => io.more h0)
    (argOpt_none := fun _ _ => .stop _)
    (argReq_zero := fun _ => .stop _) (argReq_group := fun h0 _ _ _ _ _ ir => ir.more h0)
    (argReq_command := fun h0 _ _ _ _ _ _ _ ir => ir.more h0)
    (argReq_token := fun h0 _ _ _ _ _ ir => ir.more h0)
    (argReq_none := fun _ _ => .stop _)
    (arg_intro := fun _ _ => trivial) (argBody_nil := fun _ => trivial)
    (argBody_close := fun _ => trivial) (argBody_step := fun _ _ _ _ _ => trivial)
    f
  ⟨H.2.2.2.2.2.2.2.1, H.2.2.2.2.2.2.2.2.1, H.2.2.2.2.2.2.2.2.2.1⟩

theorem readArgs_one {g : Nat} {tol : Bool} {mode : Mode} {ts : List Tok} {args : List Expr}
    {rest : List Tok} (h : readArgs g 1 0 tol mode ts = .ok (args, rest)) : args.length ≤ 1 := by
  have := (argCount g).1 _ _ _ _ _ _ _ h (by decide) (by decide)
  omega

theorem readEnv_shape {f : Nat} {name : Str} {args : List Expr} {pos : Int} {skip : List Str}
    {tol : Bool} {mode : Mode} {ts : List Tok} {e : Expr} {rest : List Tok}
    (h : readEnv f name args pos skip tol mode ts = .ok (e, rest)) :
    ∃ body, e = .nenv name args body pos := by
  cases f with
  | zero => cases h
  | succ g =>
    unfold readEnv at h
    obtain ⟨be, ts1, _, h⟩ := Res.bind_eq_ok.mp h
    by_cases herr : envError name be.2 = true
    · rw [if_pos herr] at h
      by_cases ht : tol = true
      · rw [if_pos ht] at h; cases h; exact ⟨_, rfl⟩
      · rw [if_neg ht] at h; cases h
    · rw [if_neg herr] at h
      cases ts1 with
      | nil => cases h
      | cons t0 r0 =>
        obtain ⟨na, ts2, _, h⟩ := Res.bind_eq_ok.mp h
        cases h; exact ⟨_, rfl⟩

theorem readEnvBody_some {f : Nat} {skip : List Str} {tol : Bool} {mode : Mode} {ts : List Tok}
    {be : List Expr × Option (List Expr)} {rest : List Tok} {eargs : List Expr}
    (h : readEnvBody f skip tol mode ts = .ok (be, rest)) (he : be.2 = some eargs) :
    ∃ esc n r g rest', rest = esc :: n :: r ∧ esc.cat = .Escape ∧ n.text = sEnd ∧
      readCommand g 1 0 tol mode (n :: r) = .ok ((n, eargs), rest') :=
  (reader_induct
    (PE := fun _ _ _ _ _ _ _ => True) (PI := fun _ _ _ _ => True)
    (PME := fun _ _ _ _ _ _ _ => True) (PMB := fun _ _ _ _ _ _ => True)
    (PEnv := fun _ _ _ _ _ _ _ _ _ _ => True)
    (PEB := fun _ _ tol mode _ be rest => ∀ eargs, be.2 = some eargs →
      ∃ esc n r g rest', rest = esc :: n :: r ∧ esc.cat = .Escape ∧ n.text = sEnd ∧
        readCommand g 1 0 tol mode (n :: r) = .ok ((n, eargs), rest'))
    (PC := fun _ _ _ _ _ _ _ _ => True) (PAs := fun _ _ _ _ _ _ _ _ => True)
    (PAO := fun _ _ _ _ _ _ _ => True) (PAR := fun _ _ _ _ _ _ _ => True)
    (PA := fun _ _ _ _ _ _ _ _ => True) (PAB := fun _ _ _ _ _ _ _ => True)
    (expr_math := fun _ _ _ => trivial) (expr_item := fun _ _ _ _ _ _ _ _ => trivial)
    (expr_skipEnv := fun _ _ _ _ _ _ _ _ _ => trivial)
    (expr_env := fun _ _ _ _ _ _ _ _ _ _ => trivial)
    (expr_cmd := fun _ _ _ _ _ _ => trivial) (expr_group := fun _ _ _ _ _ => trivial)
    (expr_text := fun _ _ _ => trivial)
    (item_nil := trivial) (item_stop := fun _ _ _ _ => trivial)
    (item_close := fun _ _ => trivial) (item_step := fun _ _ _ _ _ _ => trivial)
    (mathEnv_intro := fun _ _ _ => trivial) (mathBody_nil := trivial)
    (mathBody_stop := fun _ => trivial) (mathBody_step := fun _ _ _ _ _ => trivial)
    (env_unclosed := fun _ _ _ _ => trivial) (env_closed := fun _ _ _ _ _ => trivial)
    (envBody_nil := nofun)
    (envBody_stop := fun {f _ _ _ t _ na ts'} hesc hc _ hend _ he => by
      cases he
      obtain ⟨r', _, rfl, _⟩ := readCommand_end (n := na.1) hc (eq_of_beq hend)
      exact ⟨t, na.1, r', f, ts', rfl, eq_of_beq hesc, eq_of_beq hend, hc⟩)
    (envBody_step := fun _ _ _ _ _ ib => ib)
    (command_nil := fun _ _ => trivial) (command_cons := fun _ _ => trivial)
    (args_none := fun _ => trivial) (args_run := fun _ _ _ _ _ _ _ => trivial)
    (argOpt_zero := fun _ => trivial) (argOpt_group := fun _ _ _ _ _ _ _ => trivial)
    (argOpt_none := fun _ _ => trivial)
    (argReq_zero := fun _ => trivial) (argReq_group := fun _ _ _ _ _ _ _ => trivial)
    (argReq_command := fun _ _ _ _ _ _ _ _ _ => trivial)
    (argReq_token := fun _ _ _ _ _ _ _ => trivial) (argReq_none := fun _ _ => trivial)
    (arg_intro := fun _ _ => trivial) (argBody_nil := fun _ => trivial)
    (argBody_close := fun _ => trivial) (argBody_step := fun _ _ _ _ _ => trivial)
    f).2.2.2.2.2.1 _ _ _ _ _ _ h _ he

end TexSoup
