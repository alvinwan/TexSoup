import TexSoupModel.Read
import TexSoupProofs.ExprInduct
import TexSoupProofs.TokLemmas.Basic
/-!
# Basic lemmas about the reader: sequencing, and what the functions without recursion return

`Res.bind` sequences the readers. `read_spacer` and `read_skip_env` do not call back into the
reader, and `read_command` only hands over to `read_args`; what a call of theirs returned is read
off here once. At the end, `isErrB` / `isOkB`: Boolean tests of a result of `parse`.
-/
namespace TexSoup

@[simp] theorem Res.bind_ok {α β : Type} (a : α) (ts : List Tok) (k : α → List Tok → Res β) :
    Res.bind (.ok (a, ts)) k = k a ts := rfl

@[simp] theorem Res.bind_error {α β : Type} (e : Err) (k : α → List Tok → Res β) :
    Res.bind (.error e : Res α) k = .error e := rfl

theorem Res.bind_eq_ok {α β : Type} {x : Res α} {k : α → List Tok → Res β} {r : β × List Tok} :
    x.bind k = .ok r ↔ ∃ a ts, x = .ok (a, ts) ∧ k a ts = .ok r := by
  cases x with
  | error e => simp
  | ok v =>
    obtain ⟨a, ts⟩ := v
    simp only [Res.bind_ok, Except.ok.injEq, Prod.mk.injEq]
    constructor
    · intro h; exact ⟨a, ts, ⟨rfl, rfl⟩, h⟩
    · rintro ⟨a', ts', ⟨rfl, rfl⟩, h⟩; exact h

theorem Res.bind_eq_error {α β : Type} {x : Res α} {k : α → List Tok → Res β} {e : Err} :
    x.bind k = .error e ↔ x = .error e ∨ ∃ a ts, x = .ok (a, ts) ∧ k a ts = .error e := by
  cases x with
  | error e' => simp
  | ok v =>
    obtain ⟨a, ts⟩ := v
    simp only [Res.bind_ok, Except.ok.injEq, Prod.mk.injEq, reduceCtorEq, false_or]
    constructor
    · intro h; exact ⟨a, ts, ⟨rfl, rfl⟩, h⟩
    · rintro ⟨a', ts', ⟨rfl, rfl⟩, h⟩; exact h

theorem readSpacer_inv (ts : List Tok) :
    ts = (readSpacer ts).2 ∨ ∃ t, t.cat = .MergedSpacer ∧ ts = t :: (readSpacer ts).2 := by
  cases ts with
  | nil => exact .inl rfl
  | cons t r =>
    simp only [readSpacer]
    split
    next h => exact .inr ⟨t, beq_iff_eq.mp h, rfl⟩
    next => exact .inl rfl

theorem readSpacer_suffix (ts : List Tok) : ∃ pre, ts = pre ++ (readSpacer ts).2 :=
  (readSpacer_inv ts).elim (fun h => ⟨[], h⟩) fun ⟨t, _, h⟩ => ⟨[t], h⟩

theorem skipBody_split (m : Str) : ∀ ts b rest, skipBody m ts = (b, rest) → ts = b ++ rest := by
  intro ts
  induction ts with
  | nil => intro b rest h; cases h; rfl
  | cons t r ih =>
    intro b rest h
    unfold skipBody at h
    split at h
    · cases h; rfl
    · cases h; exact congrArg (t :: ·) (ih _ _ rfl)

/-- A successful `read_skip_env` split its input at the first token boundary where the end marker
starts: the tokens before it became one text, recorded at the first token of the input (if there
is one), and the five tokens from there on were consumed. -/
theorem readSkipEnv_inv {name : Str} {args : List Expr} {pos : Int} {ts : List Tok} {e : Expr}
    {rest : List Tok} (h : readSkipEnv name args pos ts = .ok (e, rest)) :
    ∃ b r bpos, skipBody (endMarker name) ts = (b, r) ∧ ts = b ++ r ∧
      bufStartsWith (endMarker name) r = true ∧
      e = .nenv name args [.text (flat b) bpos] pos ∧ rest = r.drop 5 ∧
      (0 ≤ bpos → ∃ t r', ts = t :: r' ∧ (t.pos : Int) = bpos) := by
  unfold readSkipEnv at h
  cases hb : skipBody (endMarker name) ts with
  | mk b r =>
    rw [hb] at h
    simp only at h
    by_cases hs : bufStartsWith (endMarker name) r = true
    · rw [if_pos hs] at h
      cases h
      refine ⟨b, r, _, rfl, skipBody_split _ _ _ _ hb, hs, rfl, rfl, ?_⟩
      cases ts with
      | nil => exact fun h0 => absurd h0 (by decide)
      | cons t r' => exact fun _ => ⟨t, r', rfl, rfl⟩
    · rw [if_neg hs] at h; cases h

theorem readSkipEnv_error {name : Str} {args : List Expr} {pos : Int} {ts : List Tok} {e : Err}
    (h : readSkipEnv name args pos ts = .error e) : e = .eof := by
  unfold readSkipEnv at h
  cases hb : skipBody (endMarker name) ts with
  | mk b r =>
    rw [hb] at h
    simp only at h
    by_cases hs : bufStartsWith (endMarker name) r = true
    · rw [if_pos hs] at h; cases h
    · rw [if_neg hs] at h
      simp only [Except.error.injEq] at h
      exact h.symm

/-- `read_command` returns the token it stands on (a made-up empty one at the end of the input)
and what `read_args` reads behind it, with the signature and the mode that belong to that name. -/
theorem readCommand_inv {f : Nat} {nreq nopt : Int} {tol : Bool} {mode : Mode} {ts : List Tok}
    {na : Tok × List Expr} {rest : List Tok}
    (h : readCommand f nreq nopt tol mode ts = .ok (na, rest)) :
    ∃ r g, (ts = na.1 :: r ∨ ts = [] ∧ r = [] ∧ na.1.text = []) ∧
      readArgs g (cmdSig nreq nopt na.1.text).1 (cmdSig nreq nopt na.1.text).2 tol
        (cmdMode na.1.text mode) r = .ok (na.2, rest) := by
  cases f with
  | zero => cases h
  | succ g =>
    unfold readCommand at h
    cases ts with
    | nil =>
      obtain ⟨args, ts2, ha, h⟩ := Res.bind_eq_ok.mp h
      cases h
      exact ⟨[], g, .inr ⟨rfl, rfl, rfl⟩, ha⟩
    | cons n r =>
      obtain ⟨args, ts2, ha, h⟩ := Res.bind_eq_ok.mp h
      cases h
      exact ⟨r, g, .inl rfl, ha⟩

theorem cmdSig_open (name : Str) : cmdSig (-1) (-1) name = signatureOf name Tables.signatures := by
  unfold cmdSig; rw [if_pos (by decide)]

theorem cmdSig_one (name : Str) : cmdSig 1 0 name = (1, 0) := by
  unfold cmdSig; rw [if_neg (by decide)]

theorem cmdSig_begin : cmdSig (-1) (-1) sBegin = (-1, -1) := by decide
theorem cmdSig_end : cmdSig (-1) (-1) sEnd = (-1, -1) := by decide
theorem cmdMode_begin (m : Mode) : cmdMode sBegin m = m := by
  unfold cmdMode; rw [if_neg (by decide)]
theorem cmdMode_end (m : Mode) : cmdMode sEnd m = m := by
  unfold cmdMode; rw [if_neg (by decide)]

theorem readCommand_named {f : Nat} {tol : Bool} {mode : Mode} {ts : List Tok} {n : Tok}
    {args : List Expr} {ts1 : List Tok}
    (h : readCommand f (-1) (-1) tol mode ts = .ok ((n, args), ts1))
    (hn : n.text = sBegin ∨ n.text = sEnd) :
    ∃ r g, ts = n :: r ∧ readArgs g (-1) (-1) tol mode r = .ok (args, ts1) := by
  obtain ⟨r, g, hts | ⟨_, _, h0⟩, ha⟩ := readCommand_inv h
  · refine ⟨r, g, hts, ?_⟩
    rcases hn with hn | hn
    · rwa [hn, cmdSig_begin, cmdMode_begin] at ha
    · rwa [hn, cmdSig_end, cmdMode_end] at ha
  · rw [h0] at hn
    rcases hn with hn | hn <;> cases hn

/-- the look-ahead of `read_env`: a command named `end` read with signature (1, 0) -/
theorem readCommand_end {f : Nat} {tol : Bool} {mode : Mode} {ts : List Tok} {n : Tok}
    {args : List Expr} {ts1 : List Tok}
    (h : readCommand f 1 0 tol mode ts = .ok ((n, args), ts1)) (hn : n.text = sEnd) :
    ∃ r g, ts = n :: r ∧ readArgs g 1 0 tol mode r = .ok (args, ts1) := by
  obtain ⟨r, g, hts | ⟨_, _, h0⟩, ha⟩ := readCommand_inv h
  · rw [hn, cmdMode_end] at ha
    exact ⟨r, g, hts, ha⟩
  · rw [h0] at hn
    cases hn

theorem envError_false {name : Str} {ea : Option (List Expr)} (h : envError name ea = false) :
    ∃ a0 as, ea = some (a0 :: as) ∧ a0.string = name := by
  match ea, h with
  | none, h => simp [envError] at h
  | some [], h => simp [envError] at h
  | some (a0 :: as), h => exact ⟨a0, as, rfl, by simpa [envError] using h⟩

/-- The result is the given error. With `isOkB` it lets a result of `parse` be tested by
evaluation without comparing trees. -/
def isErrB {α : Type} (e : Err) : Except Err α → Bool
  | .error e' => e' == e
  | .ok _ => false

def isOkB {α : Type} : Except Err α → Bool
  | .error _ => false
  | .ok _ => true

theorem isErrB_sound {α : Type} {e : Err} {x : Except Err α} (h : isErrB e x = true) :
    x = .error e := by
  cases x with
  | error e' => simp only [isErrB, beq_iff_eq] at h; rw [h]
  | ok v => cases h

theorem isOkB_sound {α : Type} {x : Except Err α} (h : isOkB x = true) : ∃ v, x = .ok v := by
  cases x with
  | error e' => cases h
  | ok v => exact ⟨v, rfl⟩

/-- The empty skip list, with which the readers call `readExpr` for a single element, is contained
in every skip list. -/
theorem noSkip : ∀ x, memStr x [] = true → memStr x skip0 = true := by
  intro x h; simp [memStr] at h

theorem parse_eq_readTex {tol : Bool} {skip : List Str} {s : Str} {ts : List Tok}
    (ht : tokenize s = some ts) :
    parse tol skip s = readTex (parseFuel ts) (Tables.skipEnvNames ++ skip) tol ts := by
  unfold parse
  rw [ht]

end TexSoup
