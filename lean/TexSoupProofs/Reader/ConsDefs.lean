import TexSoupProofs.Reader.Del
import TexSoupProofs.Reader.Fuel
/-!
# Hypotheses and statement of the conservation invariant (Core A)
-/
namespace TexSoup

/-- Delimiter tokens carry the text their category stands for (true of every token the
tokenizer produces: theorem `tokens_shaped`). -/
def shapedB (t : Tok) : Bool :=
  match t.cat with
  | .Escape => t.text == [92]
  | .GroupBegin => t.text == [123]
  | .GroupEnd => t.text == [125]
  | .BracketBegin => t.text == [91]
  | .BracketEnd => t.text == [93]
  | .MathSwitch => t.text == [36]
  | .DisplayMathSwitch => t.text == [36, 36]
  | .MathGroupBegin => t.text == [92, 40]
  | .MathGroupEnd => t.text == [92, 41]
  | .DisplayMathGroupBegin => t.text == [92, 91]
  | .DisplayMathGroupEnd => t.text == [92, 93]
  | _ => true

mutual
/-- No argument was made up from a bare token or bare command (`'{%s}' % token`,
`TexCmd(name)` as argument): every element of an argument list is a group that was really
parsed (its position is not the default `-1`). This is the side condition of C08/C16 on
fixed-signature commands, read off the result. -/
def noBare : Expr → Bool
  | .text _ _ => true
  | .cmd _ a b _ => noBareA a && noBareL b
  | .nenv _ a b _ => noBareA a && noBareL b
  | .math _ b _ => noBareL b
  | .group _ b _ => noBareL b
def noBareL : List Expr → Bool
  | [] => true
  | e :: es => noBare e && noBareL es
def noBareA : List Expr → Bool
  | [] => true
  | .group _ b p :: as => decide (0 ≤ p) && noBareL b && noBareA as
  | _ :: _ => false
end

theorem noBareA_append (a b : List Expr) : noBareA (a ++ b) = (noBareA a && noBareA b) := by
  induction a with
  | nil => simp [noBareA]
  | cons e es ih =>
    cases e <;> simp [noBareA, ih, Bool.and_assoc]

theorem noBareL_append (a b : List Expr) : noBareL (a ++ b) = (noBareL a && noBareL b) := by
  induction a with
  | nil => simp [noBareL]
  | cons e es ih => simp [noBareL, ih, Bool.and_assoc]

/-- Hypotheses on the token list under which the reader conserves characters.
`skip0` = the verbatim-like environment names of the top-level call. -/
structure Hyp (skip0 : List Str) (ts : List Tok) : Prop where
  shaped : ∀ t ∈ ts, shapedB t = true
  /-- the token after an escape is its own `strip()` (tokenizer theorem `after_escape`) -/
  escOK : ∀ pre esc n r, ts = pre ++ esc :: n :: r → esc.cat = .Escape → strip n.text = n.text
  /-- finding F4b excluded: the group naming an environment after `\begin`/`\end` is a brace
  group whose text has no surrounding blanks (and no made-up braces inside) -/
  envPlain : ∀ pre esc n r, ts = pre ++ esc :: n :: r → esc.cat = .Escape →
      (n.text = sBegin ∨ n.text = sEnd) →
      ∀ g nreq nopt tol mode a0 as rest, readArgs g nreq nopt tol mode r = .ok (a0 :: as, rest) →
        (∃ b p, a0 = .group .brace b p) ∧ strip a0.string = a0.string ∧ noBareA [a0] = true
  /-- `\end{name}` of a verbatim-like environment is spelled by exactly five tokens -/
  skipPlain : ∀ name, memStr name skip0 = true → ∀ pre rest, ts = pre ++ rest →
      bufStartsWith (endMarker name) rest = true → flat (rest.take 5) = endMarker name

theorem Hyp.suffix {skip0 : List Str} {c rest : List Tok} (h : Hyp skip0 (c ++ rest)) :
    Hyp skip0 rest where
  shaped := fun t ht => h.shaped t (List.mem_append_right c ht)
  escOK := fun pre esc n r he => h.escOK (c ++ pre) esc n r (by rw [he]; simp)
  envPlain := fun pre esc n r he => h.envPlain (c ++ pre) esc n r (by rw [he]; simp)
  skipPlain := fun name hn pre r he => h.skipPlain name hn (c ++ pre) r (by rw [he]; simp)

theorem Hyp.ofCons {skip0 : List Str} {tol : Bool} {ts rest : List Tok} {x : Str}
    (h : Hyp skip0 ts) (hc : Cons tol ts x rest) : Hyp skip0 rest := by
  obtain ⟨c, rfl, _⟩ := hc
  exact h.suffix

theorem Hyp.tail {skip0 : List Str} {t : Tok} {ts : List Tok} (h : Hyp skip0 (t :: ts)) :
    Hyp skip0 ts := Hyp.suffix (c := [t]) h

def ConsAt (skip0 : List Str) (f : Nat) : Prop :=
  (∀ skip tol mode ts e rest, readExpr f skip tol mode ts = .ok (e, rest) → Hyp skip0 ts →
      (∀ x, memStr x skip = true → memStr x skip0 = true) → noBare e = true →
      Cons tol ts (ser e) rest) ∧
  (∀ ts es rest, readItem f ts = .ok (es, rest) → Hyp skip0 ts → noBareL es = true →
      Cons false ts (serL es) rest) ∧
  (∀ k pos tol ts e rest, readMathEnv f k pos tol ts = .ok (e, rest) → Hyp skip0 ts →
      ∃ body, e = .math k body pos ∧ (noBareL body = true → Cons tol ts (serL body ++ k.close) rest)) ∧
  (∀ k tol ts es rest, readMathBody f k tol ts = .ok (es, rest) → Hyp skip0 ts → noBareL es = true →
      Cons tol ts (serL es) rest) ∧
  (∀ name args pos skip tol mode ts e rest, readEnv f name args pos skip tol mode ts = .ok (e, rest) →
      Hyp skip0 ts → (∀ x, memStr x skip = true → memStr x skip0 = true) →
      ∃ body, e = .nenv name args body pos ∧
        (noBareL body = true → Cons tol ts (serL body ++ endMarker name) rest)) ∧
  (∀ skip tol mode ts es ea rest, readEnvBody f skip tol mode ts = .ok ((es, ea), rest) →
      Hyp skip0 ts → (∀ x, memStr x skip = true → memStr x skip0 = true) →
      noBareL es = true → Cons tol ts (serL es) rest ∧
      (∀ eargs, ea = some eargs → ∃ esc n r g rest', rest = esc :: n :: r ∧ esc.cat = .Escape ∧
          n.text = sEnd ∧ readCommand g 1 0 tol mode (n :: r) = .ok ((n, eargs), rest'))) ∧
  (∀ nreq nopt tol mode ts n args rest, readCommand f nreq nopt tol mode ts = .ok ((n, args), rest) →
      Hyp skip0 ts → (noBareA args = true → Cons tol ts (n.text ++ serL args) rest) ∧
      (ts.head? = some n ∨ (ts = [] ∧ n.text = []))) ∧
  (∀ nreq nopt tol mode ts args rest, readArgs f nreq nopt tol mode ts = .ok (args, rest) →
      Hyp skip0 ts → noBareA args = true → Cons tol ts (serL args) rest) ∧
  (∀ n tol mode ts gs n' rest, readArgOpt f n tol mode ts = .ok ((gs, n'), rest) →
      Hyp skip0 ts → noBareA gs = true → Cons tol ts (serL gs) rest) ∧
  (∀ n tol mode ts gs n' rest, readArgReq f n tol mode ts = .ok ((gs, n'), rest) →
      Hyp skip0 ts → noBareA gs = true → Cons tol ts (serL gs) rest) ∧
  (∀ k pos tol mode ts e rest, readArg f k pos tol mode ts = .ok (e, rest) → Hyp skip0 ts →
      ∃ body, e = .group k body pos ∧ (noBareL body = true → Cons tol ts (serL body ++ k.close) rest)) ∧
  (∀ k tol mode ts es rest, readArgBody f k tol mode ts = .ok (es, rest) → Hyp skip0 ts →
      noBareL es = true → Cons tol ts (serL es ++ k.close) rest)

end TexSoup
