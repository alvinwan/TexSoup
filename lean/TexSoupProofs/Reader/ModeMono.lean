import TexSoupProofs.Reader.Mono
/-!
# What the reader returns in math mode it also returns in non-math mode

Math mode only *forbids* (`\item`); it never changes a result. So a call that succeeds in math
mode succeeds with the same result in non-math mode. For every reader function that takes a mode
this is `reader_mono` with `MLe .math .nonMath`; it is stated here for `readArg`, where it
is used.
-/
namespace TexSoup

theorem readArg_math_nonMath {f : Nat} {k : GKind} {pos : Int} {tol : Bool} {ts : List Tok}
    {r : Expr × List Tok} (h : readArg f k pos tol .math ts = .ok r) :
    readArg f k pos tol .nonMath ts = .ok r :=
  readArg_mono h (Nat.le_refl f) id .math_nonMath

end TexSoup
