import TexSoupProofs.Reader.Balance
import TexSoupProofs.Reader.Classify
import TexSoupProofs.Reader.NoInternal
import TexSoupProofs.Reader.FuelEnough
/-!
# Tolerant parsing cannot fail outside math, lists, verbatim and name-less `\begin`

In tolerant mode `readArgBody` and `readEnv` close what is open at the end of the buffer, so the
only diagnostic errors left are: `EOFError` from math regions and verbatim-like environments,
`AssertionError` from `\begin` without argument and `\item` in math mode, `TypeError` from the
(always strict) contents of `\item`. Under `TolHyp` none of them can be reached: every reader
function reached in tolerant mode either succeeds or returns `Err.fuel`/`Err.internal`, and
those two never come out of `parse` (`parse_no_fuel`, `parse_no_internal`).
-/
namespace TexSoup

/-- No math opener, no `\item`, every `\begin` is followed by `{name}` with a single-token name
that is not a verbatim-like environment of `skip0`. -/
structure TolHyp (skip0 : List Str) (ts : List Tok) : Prop where
  math : ∀ t ∈ ts, mkindOfBegin t.cat = none
  noItem : NoItem ts
  named : BeginNamed skip0 ts

theorem TolHyp.suf {skip0 : List Str} {ts rest : List Tok} (h : TolHyp skip0 ts)
    (hs : Suf ts rest) : TolHyp skip0 rest where
  math := fun t ht => h.math t (hs.mem ht)
  noItem := h.noItem.suf hs
  named := h.named.suf hs

theorem TolHyp.tail {skip0 : List Str} {t : Tok} {ts : List Tok} (h : TolHyp skip0 (t :: ts)) :
    TolHyp skip0 ts := h.suf Suf.tail

def tolHypB (skip0 : List Str) (ts : List Tok) : Bool :=
  ts.all (fun t => (mkindOfBegin t.cat).isNone) && escNextB (fun s => s != sItem) ts &&
    escAfterB (beginNamedB skip0) ts

theorem tolHypB_sound {skip0 : List Str} {ts : List Tok} (h : tolHypB skip0 ts = true) :
    TolHyp skip0 ts := by
  simp only [tolHypB, Bool.and_eq_true, List.all_eq_true, Option.isNone_iff_eq_none] at h
  exact ⟨h.1.1, (escNextB_sound _ _ h.1.2).mono (fun s hs => by simpa using hs),
    escAfterB_sound _ _ h.2⟩

theorem TolHyp.of_wellNamed {skip0 : List Str} {ts : List Tok}
    (hm : ∀ t ∈ ts, mkindOfBegin t.cat = none) (hi : NoItem ts) (hw : WellNamed skip0 ts) :
    TolHyp skip0 ts := ⟨hm, hi, hw.beginNamed⟩

/-- Under `TolHyp`, a tolerant reader function can only fail with `Err.fuel` or `Err.internal`.
(`readItem`, `readMathEnv`, `readMathBody` are never reached.) -/
def TolOkAt (skip0 : List Str) (f : Nat) : Prop :=
  (∀ skip mode ts e, readExpr f skip true mode ts = .error e → TolHyp skip0 ts →
      (∀ x, memStr x skip = true → memStr x skip0 = true) → e = .fuel ∨ e = .internal) ∧
  (∀ name args pos skip mode ts e, readEnv f name args pos skip true mode ts = .error e →
      TolHyp skip0 ts → (∀ x, memStr x skip = true → memStr x skip0 = true) →
      e = .fuel ∨ e = .internal) ∧
  (∀ skip mode ts e, readEnvBody f skip true mode ts = .error e → TolHyp skip0 ts →
      (∀ x, memStr x skip = true → memStr x skip0 = true) → e = .fuel ∨ e = .internal) ∧
  (∀ nreq nopt mode ts e, readCommand f nreq nopt true mode ts = .error e → TolHyp skip0 ts →
      e = .fuel ∨ e = .internal) ∧
  (∀ nreq nopt mode ts e, readArgs f nreq nopt true mode ts = .error e → TolHyp skip0 ts →
      e = .fuel ∨ e = .internal) ∧
  (∀ n mode ts e, readArgOpt f n true mode ts = .error e → TolHyp skip0 ts →
      e = .fuel ∨ e = .internal) ∧
  (∀ n mode ts e, readArgReq f n true mode ts = .error e → TolHyp skip0 ts →
      e = .fuel ∨ e = .internal) ∧
  (∀ k pos mode ts e, readArg f k pos true mode ts = .error e → TolHyp skip0 ts →
      e = .fuel ∨ e = .internal) ∧
  (∀ k mode ts e, readArgBody f k true mode ts = .error e → TolHyp skip0 ts →
      e = .fuel ∨ e = .internal)

theorem tolOkAt (skip0 : List Str) (f : Nat) : TolOkAt skip0 f := by
  have a := reader_error_induct
    (PE := fun _ skip tol _ ts e => tol = true → TolHyp skip0 ts →
      (∀ x, memStr x skip = true → memStr x skip0 = true) → e = .fuel ∨ e = .internal)
    (PI := fun _ _ _ => True)
    (PME := fun _ _ _ _ _ _ => True)
    (PMB := fun _ _ _ _ _ => True)
    (PEnv := fun _ _ _ _ skip tol _ ts e => tol = true → TolHyp skip0 ts →
      (∀ x, memStr x skip = true → memStr x skip0 = true) → e = .fuel ∨ e = .internal)
    (PEB := fun _ skip tol _ ts e => tol = true → TolHyp skip0 ts →
      (∀ x, memStr x skip = true → memStr x skip0 = true) → e = .fuel ∨ e = .internal)
    (PC := fun _ _ _ tol _ ts e => tol = true → TolHyp skip0 ts → e = .fuel ∨ e = .internal)
    (PAs := fun _ _ _ tol _ ts e => tol = true → TolHyp skip0 ts → e = .fuel ∨ e = .internal)
    (PAO := fun _ _ tol _ ts e => tol = true → TolHyp skip0 ts → e = .fuel ∨ e = .internal)
    (PAR := fun _ _ tol _ ts e => tol = true → TolHyp skip0 ts → e = .fuel ∨ e = .internal)
    (PA := fun _ _ _ tol _ ts e => tol = true → TolHyp skip0 ts → e = .fuel ∨ e = .internal)
    (PAB := fun _ _ tol _ ts e => tol = true → TolHyp skip0 ts → e = .fuel ∨ e = .internal)
    (expr_fuel := fun _ _ _ => .inl rfl)
    (expr_nil := fun _ _ _ => .inr rfl)
    (expr_math := fun hk _ _ _ hy _ => nomatch hk.symm.trans (hy.math _ (List.mem_cons_self ..)))
    (expr_command := fun _ _ _ i ht hy _ => i ht hy.tail)
    (expr_itemMath := fun _ hesc hc hitem _ _ hy _ =>
      absurd hitem (hy.noItem.not_item hesc hc))
    (expr_item := fun _ hesc hc hitem _ _ _ _ hy _ =>
      absurd hitem (hy.noItem.not_item hesc hc))
    (expr_beginNoArg := fun _ hesc hc _ hb hargs _ hy _ =>
      let ⟨_, _, h, _⟩ := hy.named.begin_args hesc hc hb
      nomatch hargs.symm.trans h)
    (expr_skipEnv := fun _ hesc hc _ hb hargs hs _ _ hy hsk => by
      obtain ⟨_, _, h, hmem⟩ := hy.named.begin_args hesc hc hb
      cases hargs.symm.trans h
      rw [hsk _ hs] at hmem
      cases hmem)
    (expr_env := fun _ _ hc _ _ _ _ _ i ht hy hsk => i ht (hy.tail.suf (readCommand_suf hc)) hsk)
    (expr_group := fun _ _ _ _ i ht hy _ => i ht hy.tail)
    (item_fuel := trivial)
    (item_peek := fun _ _ _ => trivial)
    (item_expr := fun _ _ _ _ => trivial)
    (item_rest := fun _ _ _ _ _ => trivial)
    (mathEnv_fuel := trivial)
    (mathEnv_body := fun _ _ => trivial)
    (mathEnv_eof := fun _ _ => trivial)
    (mathBody_fuel := trivial)
    (mathBody_expr := fun _ _ _ => trivial)
    (mathBody_rest := fun _ _ _ _ => trivial)
    (env_fuel := fun _ _ _ => .inl rfl)
    (env_body := fun _ i => i)
    (env_unclosed := fun _ _ hnt ht => absurd ht hnt)
    (env_endNil := fun _ _ _ _ _ => .inr rfl)
    (env_end := fun hb _ _ i ht hy _ => i ht (hy.suf (readEnvBody_suf hb)).tail)
    (envBody_fuel := fun _ _ _ => .inl rfl)
    (envBody_peek := fun _ _ i ht hy _ => i ht hy.tail)
    (envBody_expr := fun _ _ i => i)
    (envBody_rest := fun _ he _ i ht hy => i ht (hy.suf (readExpr_ssuf he).suf))
    (command_fuel := fun _ _ => .inl rfl)
    (command_nil := fun _ i => i)
    (command_cons := fun _ i ht hy => i ht hy.tail)
    (args_fuel := fun _ _ => .inl rfl)
    (args_opt := fun _ _ i => i)
    (args_req := fun _ h1 _ i ht hy => i ht (hy.suf (readArgOpt_suf h1)))
    (args_opt2 := fun _ h1 h2 _ _ i ht hy =>
      i ht (hy.suf ((readArgOpt_suf h1).trans (readArgReq_suf h2))))
    (args_req2 := fun _ h1 h2 p3 _ _ i ht hy => i ht (hy.suf (readArgs_fourth_suf h1 h2 p3)))
    (argOpt_fuel := fun _ _ => .inl rfl)
    (argOpt_arg := fun _ hs _ _ i ht hy => i ht (hy.suf (Suf.afterSpacer hs).suf))
    (argOpt_rest := fun _ hs _ hg _ i ht hy =>
      i ht (hy.suf ((Suf.afterSpacer hs).suf.trans (readArg_suf hg))))
    (argReq_fuel := fun _ _ => .inl rfl)
    (argReq_arg := fun _ hs _ _ i ht hy => i ht (hy.suf (Suf.afterSpacer hs).suf))
    (argReq_rest := fun _ hs _ hg _ i ht hy =>
      i ht (hy.suf ((Suf.afterSpacer hs).suf.trans (readArg_suf hg))))
    (argReq_command := fun _ hs _ _ _ _ i ht hy => i ht (hy.suf (Suf.afterSpacer hs).suf))
    (argReq_commandRest := fun _ hs _ _ _ hc _ i ht hy =>
      i ht (hy.suf ((Suf.afterSpacer hs).suf.trans (readCommand_suf hc))))
    (argReq_tokenRest := fun _ hs _ _ _ _ i ht hy => i ht (hy.suf (Suf.afterSpacer hs).suf))
    (arg_fuel := fun _ _ => .inl rfl)
    (arg_body := fun _ i => i)
    (argBody_fuel := fun _ _ => .inl rfl)
    (argBody_nil := fun hnt ht => absurd ht hnt)
    (argBody_expr := fun _ _ i ht hy => i ht hy noSkip)
    (argBody_rest := fun _ he _ i ht hy => i ht (hy.suf (readExpr_ssuf he).suf))
    f
  exact ⟨fun _ _ _ _ h => a.1 _ _ _ _ _ h rfl,
    fun _ _ _ _ _ _ _ h => a.2.2.2.2.1 _ _ _ _ _ _ _ _ h rfl,
    fun _ _ _ _ h => a.2.2.2.2.2.1 _ _ _ _ _ h rfl,
    fun _ _ _ _ _ h => a.2.2.2.2.2.2.1 _ _ _ _ _ _ h rfl,
    fun _ _ _ _ _ h => a.2.2.2.2.2.2.2.1 _ _ _ _ _ _ h rfl,
    fun _ _ _ _ h => a.2.2.2.2.2.2.2.2.1 _ _ _ _ _ h rfl,
    fun _ _ _ _ h => a.2.2.2.2.2.2.2.2.2.1 _ _ _ _ _ h rfl,
    fun _ _ _ _ _ h => a.2.2.2.2.2.2.2.2.2.2.1 _ _ _ _ _ _ h rfl,
    fun _ _ _ _ h => a.2.2.2.2.2.2.2.2.2.2.2 _ _ _ _ _ h rfl⟩

theorem readTex_tolerant_ok (skip0 : List Str) : ∀ f ts e, readTex f skip0 true ts = .error e →
    TolHyp skip0 ts → e = .fuel ∨ e = .internal := by
  intro f ts e h hy
  rcases readTex_error h with ⟨he, _⟩ | ⟨g, ts', hs, _, _, hx⟩
  · exact .inl he
  · exact (tolOkAt skip0 g).1 _ _ _ _ hx (hy.suf hs) (fun _ h => h)

/-- Tolerant parsing succeeds on every token list satisfying `TolHyp`. -/
theorem parse_tolerant_succeeds (skip : List Str) (s : Str) (ts : List Tok)
    (ht : tokenize s = some ts) (hy : TolHyp (Tables.skipEnvNames ++ skip) ts) :
    ∃ es, parse true skip s = .ok es := by
  cases h : parse true skip s with
  | ok es => exact ⟨es, rfl⟩
  | error e =>
    have h' := h
    rw [parse_eq_readTex ht] at h'
    rcases readTex_tolerant_ok _ _ _ _ h' hy with rfl | rfl
    · exact absurd h (parse_no_fuel true skip s)
    · exact absurd h (parse_no_internal true skip s)

end TexSoup
