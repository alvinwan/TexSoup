import TexSoupProofs.Reader.Basic
/-!
# The conservation relation `Del` between consumed tokens and serialised text (Core A)
-/
namespace TexSoup

def isOpener (t : Tok) : Bool := t.cat == .GroupBegin || t.cat == .BracketBegin

/-- Text that tolerant parsing may invent: `}`, `]`, `\end{name}`. -/
def IsCloser (s : Str) : Prop := s = [125] ∨ s = [93] ∨ ∃ name, s = endMarker name

/-- `Del tol ts out`: `out` is the concatenated text of `ts`, except that `MergedSpacer`
tokens standing directly before an opening brace/bracket may be missing and – only when
`tol = true` – closing delimiters may have been inserted. -/
inductive Del (tol : Bool) : List Tok → Str → Prop
  | nil : Del tol [] []
  | keep (t : Tok) {ts : List Tok} {out : Str} : Del tol ts out → Del tol (t :: ts) (t.text ++ out)
  | drop (t o : Tok) {ts : List Tok} {out : Str} : t.cat = .MergedSpacer → isOpener o = true →
      Del tol (o :: ts) out → Del tol (t :: o :: ts) out
  | ins (s : Str) {ts : List Tok} {out : Str} : tol = true → IsCloser s → Del tol ts out →
      Del tol ts (s ++ out)

theorem Del.append {tol : Bool} {a b : List Tok} {x y : Str} (h1 : Del tol a x) (h2 : Del tol b y) :
    Del tol (a ++ b) (x ++ y) := by
  induction h1 with
  | nil => exact h2
  | keep t _ ih => rw [List.append_assoc]; exact .keep t ih
  | drop t o hs ho _ ih => exact .drop t o hs ho ih
  | ins s ht hc _ ih => rw [List.append_assoc]; exact .ins s ht hc ih

theorem Del.mono {tol : Bool} {a : List Tok} {x : Str} (h : Del false a x) : Del tol a x := by
  induction h with
  | nil => exact .nil
  | keep t _ ih => exact .keep t ih
  | drop t o hs ho _ ih => exact .drop t o hs ho ih
  | ins s ht _ _ _ => cases ht

theorem Del.single {tol : Bool} (t : Tok) : Del tol [t] t.text := by
  simpa using Del.keep (tol := tol) t Del.nil

theorem Del.closer {tol : Bool} (s : Str) (ht : tol = true) (hc : IsCloser s) : Del tol [] s := by
  simpa using Del.ins s ht hc Del.nil

theorem Del.strict_sublist {a : List Tok} {x : Str} (h : Del false a x) : x.Sublist (flat a) := by
  induction h with
  | nil => exact .refl _
  | keep t _ ih => exact .append (.refl t.text) ih
  | drop t o _ _ _ ih => exact ih.trans (List.sublist_append_right _ _)
  | ins s ht _ _ _ => cases ht

theorem Del.strict_length {a : List Tok} {x : Str} (h : Del false a x) : x.length ≤ (flat a).length :=
  h.strict_sublist.length_le

theorem Del.flat {tol : Bool} (c : List Tok) : Del tol c (flat c) := by
  induction c with
  | nil => exact .nil
  | cons t r ih => exact .keep t ih

/-- No spacer before an opener anywhere: then nothing at all is removed. -/
def noSpacerBeforeOpener : List Tok → Bool
  | t :: o :: r => !(t.cat == .MergedSpacer && isOpener o) && noSpacerBeforeOpener (o :: r)
  | _ => true

theorem Del.strict_exact {a : List Tok} {x : Str} (h : Del false a x)
    (hn : noSpacerBeforeOpener a = true) : x = TexSoup.flat a := by
  induction h with
  | nil => rfl
  | @keep t ts out _ ih =>
    have : noSpacerBeforeOpener ts = true := by
      cases ts with
      | nil => rfl
      | cons o r => simp only [noSpacerBeforeOpener, Bool.and_eq_true] at hn; exact hn.2
    simp [TexSoup.flat, ih this]
  | drop t o hs ho _ _ =>
    simp only [noSpacerBeforeOpener, Bool.and_eq_true, Bool.not_eq_true', Bool.and_eq_false_iff] at hn
    rcases hn.1 with h1 | h1
    · simp [hs] at h1
    · rw [ho] at h1; cases h1
  | ins s ht _ _ _ => cases ht

/-- `Cons tol ts out rest`: a reader that turns `ts` into `rest` consumed a prefix `c` of `ts`
with `Del tol c out`, where `out` is the serialisation of what it returned. -/
def Cons (tol : Bool) (ts : List Tok) (out : Str) (rest : List Tok) : Prop :=
  ∃ c, ts = c ++ rest ∧ Del tol c out

theorem Cons.refl {tol : Bool} (ts : List Tok) : Cons tol ts [] ts := ⟨[], rfl, .nil⟩

theorem Cons.trans {tol : Bool} {ts mid rest : List Tok} {x y : Str}
    (h1 : Cons tol ts x mid) (h2 : Cons tol mid y rest) : Cons tol ts (x ++ y) rest := by
  obtain ⟨c1, rfl, d1⟩ := h1
  obtain ⟨c2, rfl, d2⟩ := h2
  exact ⟨c1 ++ c2, by simp, d1.append d2⟩

theorem Cons.cons {tol : Bool} (t : Tok) {ts rest : List Tok} {x : Str} (h : Cons tol ts x rest) :
    Cons tol (t :: ts) (t.text ++ x) rest := by
  obtain ⟨c, rfl, d⟩ := h
  exact ⟨t :: c, rfl, .keep t d⟩

theorem Cons.mono {tol : Bool} {ts rest : List Tok} {x : Str} (h : Cons false ts x rest) :
    Cons tol ts x rest := by
  obtain ⟨c, rfl, d⟩ := h
  exact ⟨c, rfl, d.mono⟩

theorem Cons.closer {tol : Bool} {ts rest : List Tok} {x : Str} (h : Cons tol ts x rest) (s : Str)
    (ht : tol = true) (hc : IsCloser s) : Cons tol ts (x ++ s) rest := by
  obtain ⟨c, rfl, d⟩ := h
  exact ⟨c, rfl, by simpa using d.append (Del.closer s ht hc)⟩

theorem Cons.dropSpacer {tol : Bool} {ts : List Tok} {o : Tok} {r rest : List Tok} {x : Str}
    (hs : (readSpacer ts).2 = o :: r) (ho : isOpener o = true) (h : Cons tol r x rest) :
    Cons tol ts (o.text ++ x) rest := by
  obtain ⟨c, rfl, d⟩ := h
  rcases readSpacer_inv ts with hts | ⟨t, ht, hts⟩ <;> rw [hs] at hts <;> subst hts
  · exact ⟨o :: c, rfl, .keep o d⟩
  · exact ⟨t :: o :: c, rfl, .drop t o ht ho (.keep o d)⟩

end TexSoup
