import TexSoupProofs.Reader.ConsHelpers
/-!
# Reader-level facts behind C09, C11, C12: plain tokens are leaves, verbatim bodies are opaque
-/
namespace TexSoup

/-- A token that `read_expr` turns into a text leaf: not an escape, not `{`, not a math opener. -/
def isLeafTok (c : Tok) : Bool :=
  (mkindOfBegin c.cat).isNone && c.cat != .Escape && c.cat != .GroupBegin

def leafOf (c : Tok) : Expr := .text c.text c.pos

/-- `[`, `]`, `(`, `)`-bearing text, `}` …: anything that is not an escape, `{` or a math opener
is an ordinary text leaf wherever an expression is read – it needs no partner. (C09, C12) -/
theorem readExpr_leaf (f : Nat) (skip : List Str) (tol : Bool) (mode : Mode) (c : Tok)
    (ts : List Tok) (h : isLeafTok c = true) :
    readExpr (f + 1) skip tol mode (c :: ts) = .ok (leafOf c, ts) := by
  unfold isLeafTok at h
  simp only [Bool.and_eq_true, Option.isNone_iff_eq_none, bne_iff_ne, ne_eq] at h
  obtain ⟨⟨h1, h2⟩, h3⟩ := h
  unfold readExpr
  simp only [h1]
  rw [if_neg (by simpa using h2), if_neg (by simpa using h3)]
  rfl

theorem bracket_is_leaf (c : Tok) (h : c.cat = .BracketBegin ∨ c.cat = .BracketEnd) :
    isLeafTok c = true := by
  unfold isLeafTok
  rcases h with h | h <;> rw [h] <;> rfl

theorem readMathBody_leaves (k : MKind) (tol : Bool) {c : Tok} {rest : List Tok}
    (hc : (c.cat == k.tokEnd) = true) : ∀ (b : List Tok) (f : Nat),
    (∀ t ∈ b, isLeafTok t = true ∧ (t.cat == k.tokEnd) = false) → b.length < f →
    readMathBody f k tol (b ++ c :: rest) = .ok (b.map leafOf, c :: rest) := by
  intro b
  induction b with
  | nil =>
    intro f _ hf
    obtain ⟨f, rfl⟩ := Nat.exists_eq_add_one.mpr hf
    unfold readMathBody
    simp only [List.nil_append, hc, if_true, List.map_nil]
  | cons t b ih =>
    intro f hb hf
    obtain ⟨f, rfl⟩ : ∃ g, f = g + 2 := ⟨f - 2, by simp only [List.length_cons] at hf; omega⟩
    have ht := hb t List.mem_cons_self
    unfold readMathBody
    simp only [List.cons_append, ht.2, Bool.false_eq_true, if_false, readExpr_leaf _ _ _ _ _ _ ht.1,
      Res.bind_ok, List.map_cons,
      ih (f + 1) (fun t' h' => hb t' (List.mem_cons_of_mem _ h'))
        (by simp only [List.length_cons] at hf; omega)]

/-- C12 (reader level): an opening math token, leaf tokens – unbalanced brackets included –
and the matching closing token give exactly one math node of that kind with exactly those
leaves; nothing inside has to balance. -/
theorem math_region_of_leaves (skip : List Str) (tol : Bool) (mode : Mode) (k : MKind) (o c : Tok)
    (b rest : List Tok) (x : Nat) (ho : mkindOfBegin o.cat = some k)
    (hb : ∀ t ∈ b, isLeafTok t = true ∧ (t.cat == k.tokEnd) = false) (hc : (c.cat == k.tokEnd) = true) :
    readExpr (b.length + 3 + x) skip tol mode (o :: (b ++ c :: rest)) =
      .ok (.math k (b.map leafOf) o.pos, rest) := by
  rw [show b.length + 3 + x = (b.length + 1 + x) + 1 + 1 by omega]
  simp only [readExpr, ho, readMathEnv, Res.bind_ok, hc, if_true,
    readMathBody_leaves k tol hc b _ hb (by omega : b.length < b.length + 1 + x)]

/-- The same for groups: a body of leaf tokens, none of the group's own closing kind. In
particular a `]` inside braces does not end the brace group and a `[` does not start one. (C09) -/
theorem readArgBody_leaves (k : GKind) (tol : Bool) (mode : Mode) {c : Tok} {rest : List Tok}
    (hc : (c.cat == k.tokEnd) = true) : ∀ (b : List Tok) (f : Nat),
    (∀ t ∈ b, isLeafTok t = true ∧ (t.cat == k.tokEnd) = false) → b.length < f →
    readArgBody f k tol mode (b ++ c :: rest) = .ok (b.map leafOf, rest) := by
  intro b
  induction b with
  | nil =>
    intro f _ hf
    obtain ⟨f, rfl⟩ := Nat.exists_eq_add_one.mpr hf
    unfold readArgBody
    simp only [List.nil_append, hc, if_true, List.map_nil]
  | cons t b ih =>
    intro f hb hf
    obtain ⟨f, rfl⟩ : ∃ g, f = g + 2 := ⟨f - 2, by simp only [List.length_cons] at hf; omega⟩
    have ht := hb t List.mem_cons_self
    unfold readArgBody
    simp only [List.cons_append, ht.2, Bool.false_eq_true, if_false, readExpr_leaf _ _ _ _ _ _ ht.1,
      Res.bind_ok, List.map_cons,
      ih (f + 1) (fun t' h' => hb t' (List.mem_cons_of_mem _ h'))
        (by simp only [List.length_cons] at hf; omega)]

theorem group_of_leaves (k : GKind) (pos : Int) (tol : Bool) (mode : Mode) (b : List Tok) (c : Tok)
    (rest : List Tok) (x : Nat) (hb : ∀ t ∈ b, isLeafTok t = true ∧ (t.cat == k.tokEnd) = false)
    (hc : (c.cat == k.tokEnd) = true) :
    readArg (b.length + 2 + x) k pos tol mode (b ++ c :: rest) = .ok (.group k (b.map leafOf) pos, rest) := by
  rw [show b.length + 2 + x = (b.length + 1 + x) + 1 by omega]
  simp only [readArg, Res.bind_ok,
    readArgBody_leaves k tol mode hc b _ hb (by omega : b.length < b.length + 1 + x)]

/-- `forward_until` stops exactly at the first token boundary at which the end marker starts. -/
theorem skipBody_spec (m : Str) : ∀ (body rest : List Tok),
    (∀ pre suf, body = pre ++ suf → suf ≠ [] → bufStartsWith m (suf ++ rest) = false) →
    (rest = [] ∨ bufStartsWith m rest = true) → skipBody m (body ++ rest) = (body, rest) := by
  intro body
  induction body with
  | nil =>
    intro rest _ hr
    simp only [List.nil_append]
    cases rest with
    | nil => rfl
    | cons t r =>
      rcases hr with hr | hr
      · cases hr
      · unfold skipBody; rw [if_pos hr]
  | cons t b ih =>
    intro rest hno hr
    have h1 := hno [] (t :: b) rfl (by simp)
    simp only [List.cons_append] at h1 ⊢
    unfold skipBody
    rw [if_neg (by simpa using h1)]
    rw [ih rest (fun pre suf hb hs => hno (t :: pre) suf (by rw [hb]; rfl) hs) hr]

/-- C11 (reader level): whatever tokens the body consists of – unbalanced delimiters, math
switches, `\begin`/`\end` of other environments – the environment is read as a single
uninterpreted text up to the first token boundary where `\end{name}` starts, the five tokens
spelling it are consumed, and no error is possible. The name enters only through the marker,
so a user-supplied name behaves like a built-in one. -/
theorem skip_env_opaque (name : Str) (args : List Expr) (pos : Int) (body e5 rest : List Tok)
    (hno : ∀ pre suf, body = pre ++ suf → suf ≠ [] →
      bufStartsWith (endMarker name) (suf ++ (e5 ++ rest)) = false)
    (h5 : e5.length = 5) (hend : bufStartsWith (endMarker name) (e5 ++ rest) = true) :
    readSkipEnv name args pos (body ++ (e5 ++ rest)) =
      .ok (.nenv name args [.text (flat body) (match body ++ (e5 ++ rest) with
        | t :: _ => (t.pos : Int)
        | [] => -1)] pos, rest) := by
  unfold readSkipEnv
  rw [skipBody_spec (endMarker name) body (e5 ++ rest) hno (.inr hend)]
  simp only [hend, if_true]
  congr 2
  rw [List.drop_append, show 5 - e5.length = 0 by omega, List.drop_zero, List.drop_eq_nil_of_le (by omega)]
  rfl

/-- … and if the marker never shows up the result is the unclosed-environment error, never
an internal one. -/
theorem skip_env_unclosed (name : Str) (args : List Expr) (pos : Int) (ts : List Tok)
    (hno : ∀ pre suf, ts = pre ++ suf → suf ≠ [] → bufStartsWith (endMarker name) suf = false) :
    readSkipEnv name args pos ts = .error .eof := by
  have hb := skipBody_spec (endMarker name) ts [] (by simpa using hno) (.inl rfl)
  rw [List.append_nil] at hb
  simp only [readSkipEnv, hb, bufStartsWith_nil_false, Bool.false_eq_true, if_false]

end TexSoup
