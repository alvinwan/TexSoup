import TexSoupProofs.Reader.Mono
/-!
# Core B: whatever strict parsing returns, tolerant parsing returns too
-/
namespace TexSoup

def StrictTolerantAt (f : Nat) : Prop :=
  (∀ skip mode ts r, readExpr f skip false mode ts = .ok r → readExpr f skip true mode ts = .ok r) ∧
  (∀ k pos ts r, readMathEnv f k pos false ts = .ok r → readMathEnv f k pos true ts = .ok r) ∧
  (∀ k ts r, readMathBody f k false ts = .ok r → readMathBody f k true ts = .ok r) ∧
  (∀ name args pos skip mode ts r, readEnv f name args pos skip false mode ts = .ok r →
      readEnv f name args pos skip true mode ts = .ok r) ∧
  (∀ skip mode ts r, readEnvBody f skip false mode ts = .ok r → readEnvBody f skip true mode ts = .ok r) ∧
  (∀ nreq nopt mode ts r, readCommand f nreq nopt false mode ts = .ok r →
      readCommand f nreq nopt true mode ts = .ok r) ∧
  (∀ nreq nopt mode ts r, readArgs f nreq nopt false mode ts = .ok r →
      readArgs f nreq nopt true mode ts = .ok r) ∧
  (∀ n mode ts r, readArgOpt f n false mode ts = .ok r → readArgOpt f n true mode ts = .ok r) ∧
  (∀ n mode ts r, readArgReq f n false mode ts = .ok r → readArgReq f n true mode ts = .ok r) ∧
  (∀ k pos mode ts r, readArg f k pos false mode ts = .ok r → readArg f k pos true mode ts = .ok r) ∧
  (∀ k mode ts r, readArgBody f k false mode ts = .ok r → readArgBody f k true mode ts = .ok r)

theorem strictTolerantAt (f : Nat) : StrictTolerantAt f := by
  obtain ⟨hE, _, hME, hMB, hEnv, hEB, hC, hAs, hAO, hAR, hA, hAB⟩ := reader_mono f
  have hf := Nat.le_refl f
  have ht : false = true → true = true := fun _ => rfl
  exact ⟨fun _ _ _ _ h => hE _ _ _ _ _ _ h _ _ _ hf ht (.refl _),
    fun _ _ _ _ h => hME _ _ _ _ _ _ h _ _ hf ht,
    fun _ _ _ h => hMB _ _ _ _ _ h _ _ hf ht,
    fun _ _ _ _ _ _ _ h => hEnv _ _ _ _ _ _ _ _ _ h _ _ _ hf ht (.refl _),
    fun _ _ _ _ h => hEB _ _ _ _ _ _ h _ _ _ hf ht (.refl _),
    fun _ _ _ _ _ h => hC _ _ _ _ _ _ _ h _ _ _ hf ht (.refl _),
    fun _ _ _ _ _ h => hAs _ _ _ _ _ _ _ h _ _ _ hf ht (.refl _),
    fun _ _ _ _ h => hAO _ _ _ _ _ _ h _ _ _ hf ht (.refl _),
    fun _ _ _ _ h => hAR _ _ _ _ _ _ h _ _ _ hf ht (.refl _),
    fun _ _ _ _ _ h => hA _ _ _ _ _ _ _ h _ _ _ hf ht (.refl _),
    fun _ _ _ _ h => hAB _ _ _ _ _ _ h _ _ _ hf ht (.refl _)⟩

end TexSoup
