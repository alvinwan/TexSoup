import TexSoupProofs.Reader.Basic
/-!
# How the reader functions succeed

One lemma per branch in which a reader function returns a value: if the conditions that select
the branch hold and the calls it makes succeed, the function returns the branch's result at the
next fuel. A successful call is put together from its parts with these, without unfolding the
function. `reader_induct` is the matching elimination principle: the rule `expr_item` goes with
`readExpr.item`, and so on, with the hypotheses in the same order.
-/
namespace TexSoup

/-- What the look-ahead of `readItem` stops at. -/
abbrev itemStops (na : Tok × List Expr) : Bool := na.1.text == sEnd || na.1.text == sItem

theorem readExpr.math {f : Nat} {skip tol mode} {c : Tok} {ts k e rest}
    (hk : mkindOfBegin c.cat = some k) (h : readMathEnv f k c.pos tol ts = .ok (e, rest)) :
    readExpr (f+1) skip tol mode (c :: ts) = .ok (e, rest) := by
  simp only [readExpr, hk, h]

theorem readExpr.item {f : Nat} {skip tol mode} {c : Tok} {ts na ts1 body ts2}
    (hk : mkindOfBegin c.cat = none) (hesc : (c.cat == TC.Escape) = true)
    (hc : readCommand f (-1) (-1) tol mode ts = .ok (na, ts1))
    (hitem : (na.1.text == sItem) = true) (hm : ¬ (mode == Mode.math) = true)
    (hi : readItem f ts1 = .ok (body, ts2)) :
    readExpr (f+1) skip tol mode (c :: ts) = .ok (.cmd (strip na.1.text) na.2 body c.pos, ts2) := by
  simp only [readExpr, hk, hesc, hc, Res.bind_ok, hitem, hm, hi, Bool.false_eq_true, ↓reduceIte]

theorem readExpr.skipEnv {f : Nat} {skip tol mode} {c : Tok} {ts na ts1 a0 as e rest}
    (hk : mkindOfBegin c.cat = none) (hesc : (c.cat == TC.Escape) = true)
    (hc : readCommand f (-1) (-1) tol mode ts = .ok (na, ts1))
    (hitem : ¬ (na.1.text == sItem) = true)
    (hb : (na.1.text == sBegin && mode != Mode.special) = true) (hargs : na.2 = a0 :: as)
    (hs : memStr (strip a0.string) skip = true)
    (h : readSkipEnv (strip a0.string) as c.pos ts1 = .ok (e, rest)) :
    readExpr (f+1) skip tol mode (c :: ts) = .ok (e, rest) := by
  simp only [readExpr, hk, hesc, hc, Res.bind_ok, hitem, hb, hargs, hs, h, Bool.false_eq_true,
    ↓reduceIte]

theorem readExpr.env {f : Nat} {skip tol mode} {c : Tok} {ts na ts1 a0 as e rest}
    (hk : mkindOfBegin c.cat = none) (hesc : (c.cat == TC.Escape) = true)
    (hc : readCommand f (-1) (-1) tol mode ts = .ok (na, ts1))
    (hitem : ¬ (na.1.text == sItem) = true)
    (hb : (na.1.text == sBegin && mode != Mode.special) = true) (hargs : na.2 = a0 :: as)
    (hs : ¬ memStr (strip a0.string) skip = true)
    (h : readEnv f (strip a0.string) as c.pos skip tol
      (if memStr (strip a0.string) Tables.mathEnvNames then Mode.math else mode) ts1
      = .ok (e, rest)) :
    readExpr (f+1) skip tol mode (c :: ts) = .ok (e, rest) := by
  simp only [readExpr, hk, hesc, hc, Res.bind_ok, hitem, hb, hargs, hs, h, Bool.false_eq_true,
    ↓reduceIte]

theorem readExpr.cmd {f : Nat} {skip tol mode} {c : Tok} {ts na ts1}
    (hk : mkindOfBegin c.cat = none) (hesc : (c.cat == TC.Escape) = true)
    (hc : readCommand f (-1) (-1) tol mode ts = .ok (na, ts1))
    (hitem : ¬ (na.1.text == sItem) = true)
    (hb : ¬ (na.1.text == sBegin && mode != Mode.special) = true) :
    readExpr (f+1) skip tol mode (c :: ts) = .ok (.cmd (strip na.1.text) na.2 [] c.pos, ts1) := by
  simp only [readExpr, hk, hesc, hc, Res.bind_ok, hitem, hb, Bool.false_eq_true, ↓reduceIte]

theorem readExpr.group {f : Nat} {skip tol mode} {c : Tok} {ts e rest}
    (hk : mkindOfBegin c.cat = none) (hesc : ¬ (c.cat == TC.Escape) = true)
    (hg : (c.cat == TC.GroupBegin) = true)
    (h : readArg f .brace c.pos tol .nonMath ts = .ok (e, rest)) :
    readExpr (f+1) skip tol mode (c :: ts) = .ok (e, rest) := by
  simp only [readExpr, hk, hesc, hg, h, Bool.false_eq_true, ↓reduceIte]

theorem readExpr.text {f : Nat} {skip tol mode} {c : Tok} {ts}
    (hk : mkindOfBegin c.cat = none) (hesc : ¬ (c.cat == TC.Escape) = true)
    (hg : ¬ (c.cat == TC.GroupBegin) = true) :
    readExpr (f+1) skip tol mode (c :: ts) = .ok (.text c.text c.pos, ts) := by
  simp only [readExpr, hk, hesc, hg, Bool.false_eq_true, ↓reduceIte]

theorem readItem.nil {f : Nat} : readItem (f+1) [] = .ok ([], []) := by
  simp only [readItem]

theorem readItem.stop {f : Nat} {t : Tok} {r na ts'} (hesc : (t.cat == TC.Escape) = true)
    (hc : readCommand f 0 0 false .nonMath r = .ok (na, ts'))
    (hs : itemStops na = true) : readItem (f+1) (t :: r) = .ok ([], t :: r) := by
  simp only [readItem, hesc, hc, Res.bind_ok, hs, ↓reduceIte]

theorem readItem.close {f : Nat} {t : Tok} {r} (hesc : ¬ (t.cat == TC.Escape) = true)
    (hge : (t.cat == TC.GroupEnd) = true) : readItem (f+1) (t :: r) = .ok ([], t :: r) := by
  simp only [readItem, hesc, hge, Bool.false_eq_true, ↓reduceIte]

theorem readItem.step {f : Nat} {t : Tok} {r e ts1 es ts2}
    (hp : (t.cat == TC.Escape) = true → ∃ na ts', readCommand f 0 0 false .nonMath r = .ok (na, ts') ∧
      ¬ itemStops na = true)
    (hq : ¬ (t.cat == TC.Escape) = true → ¬ (t.cat == TC.GroupEnd) = true)
    (he : readExpr f [] false .nonMath (t :: r) = .ok (e, ts1))
    (hi : readItem f ts1 = .ok (es, ts2)) : readItem (f+1) (t :: r) = .ok (e :: es, ts2) := by
  by_cases hesc : (t.cat == TC.Escape) = true
  · obtain ⟨na, ts', hc, hs⟩ := hp hesc
    simp only [readItem, hesc, hc, Res.bind_ok, hs, he, hi, Bool.false_eq_true, ↓reduceIte]
  · simp only [readItem, hesc, hq hesc, he, hi, Res.bind_ok, Bool.false_eq_true, ↓reduceIte]

theorem readMathEnv.intro {f : Nat} {k pos tol ts body} {t : Tok} {r}
    (hb : readMathBody f k tol ts = .ok (body, t :: r)) (hend : (t.cat == k.tokEnd) = true) :
    readMathEnv (f+1) k pos tol ts = .ok (.math k body pos, r) := by
  simp only [readMathEnv, hb, Res.bind_ok, hend, ↓reduceIte]

theorem readMathBody.nil {f : Nat} {k tol} : readMathBody (f+1) k tol [] = .ok ([], []) := by
  simp only [readMathBody]

theorem readMathBody.stop {f : Nat} {k tol} {t : Tok} {r} (hend : (t.cat == k.tokEnd) = true) :
    readMathBody (f+1) k tol (t :: r) = .ok ([], t :: r) := by
  simp only [readMathBody, hend, ↓reduceIte]

theorem readMathBody.step {f : Nat} {k tol} {t : Tok} {r e ts1 es ts2}
    (hend : ¬ (t.cat == k.tokEnd) = true) (he : readExpr f [] tol .math (t :: r) = .ok (e, ts1))
    (hb : readMathBody f k tol ts1 = .ok (es, ts2)) :
    readMathBody (f+1) k tol (t :: r) = .ok (e :: es, ts2) := by
  simp only [readMathBody, hend, he, hb, Res.bind_ok, Bool.false_eq_true, ↓reduceIte]

theorem readEnv.unclosed {f : Nat} {name args pos skip tol mode ts be ts1}
    (hb : readEnvBody f skip tol mode ts = .ok (be, ts1)) (herr : envError name be.2 = true)
    (ht : tol = true) :
    readEnv (f+1) name args pos skip tol mode ts = .ok (.nenv name args be.1 pos, ts1) := by
  subst ht
  simp only [readEnv, hb, Res.bind_ok, herr, ↓reduceIte]

theorem readEnv.closed {f : Nat} {name args pos skip tol mode ts be} {t1 : Tok} {r1 na ts2}
    (hb : readEnvBody f skip tol mode ts = .ok (be, t1 :: r1)) (herr : ¬ envError name be.2 = true)
    (hc : readCommand f 1 0 tol mode r1 = .ok (na, ts2)) :
    readEnv (f+1) name args pos skip tol mode ts = .ok (.nenv name args be.1 pos, ts2) := by
  simp only [readEnv, hb, Res.bind_ok, herr, hc, Bool.false_eq_true, ↓reduceIte]

theorem readEnvBody.nil {f : Nat} {skip tol mode} :
    readEnvBody (f+1) skip tol mode [] = .ok (([], none), []) := by
  simp only [readEnvBody]

theorem readEnvBody.stop {f : Nat} {skip tol mode} {t : Tok} {r na ts'}
    (hesc : (t.cat == TC.Escape) = true) (hc : readCommand f 1 0 tol mode r = .ok (na, ts'))
    (hend : (na.1.text == sEnd) = true) :
    readEnvBody (f+1) skip tol mode (t :: r) = .ok (([], some na.2), t :: r) := by
  simp only [readEnvBody, hesc, hc, Res.bind_ok, hend, ↓reduceIte]

theorem readEnvBody.step {f : Nat} {skip tol mode} {t : Tok} {r e ts1 be ts2}
    (hp : (t.cat == TC.Escape) = true → ∃ na ts', readCommand f 1 0 tol mode r = .ok (na, ts') ∧
      ¬ (na.1.text == sEnd) = true)
    (he : readExpr f skip tol mode (t :: r) = .ok (e, ts1))
    (hb : readEnvBody f skip tol mode ts1 = .ok (be, ts2)) :
    readEnvBody (f+1) skip tol mode (t :: r) = .ok ((e :: be.1, be.2), ts2) := by
  by_cases hesc : (t.cat == TC.Escape) = true
  · obtain ⟨na, ts', hc, hend⟩ := hp hesc
    simp only [readEnvBody, hesc, hc, Res.bind_ok, hend, he, hb, Bool.false_eq_true, ↓reduceIte]
  · simp only [readEnvBody, hesc, he, hb, Res.bind_ok, Bool.false_eq_true, ↓reduceIte]

theorem readCommand.nil {f : Nat} {nreq nopt tol mode args ts2}
    (ha : readArgs f (cmdSig nreq nopt []).1 (cmdSig nreq nopt []).2 tol (cmdMode [] mode) []
      = .ok (args, ts2)) :
    readCommand (f+1) nreq nopt tol mode [] = .ok ((⟨[], 0, .Text⟩, args), ts2) := by
  simp only [readCommand, ha, Res.bind_ok]

theorem readCommand.cons {f : Nat} {nreq nopt tol mode} {n : Tok} {r args ts2}
    (ha : readArgs f (cmdSig nreq nopt n.text).1 (cmdSig nreq nopt n.text).2 tol
      (cmdMode n.text mode) r = .ok (args, ts2)) :
    readCommand (f+1) nreq nopt tol mode (n :: r) = .ok ((n, args), ts2) := by
  simp only [readCommand, ha, Res.bind_ok]

theorem readArgs.none {f : Nat} {nreq nopt tol mode ts} (h0 : (nreq == 0 && nopt == 0) = true) :
    readArgs (f+1) nreq nopt tol mode ts = .ok ([], ts) := by
  simp only [readArgs, h0, ↓reduceIte]

/-- The third and fourth phase are given as in `reader_induct`: the call if a bracket (brace)
follows, nothing otherwise. -/
theorem readArgs.run {f : Nat} {nreq nopt tol mode ts an1 ts1 an2 ts2 an3 ts3 an4 ts4}
    (h0 : ¬ (nreq == 0 && nopt == 0) = true)
    (h1 : readArgOpt f nopt tol mode ts = .ok (an1, ts1))
    (h2 : readArgReq f nreq tol mode ts1 = .ok (an2, ts2))
    (h3 : nextIs .BracketBegin ts2 = true ∧ readArgOpt f an1.2 tol mode ts2 = .ok (an3, ts3) ∨
      ¬ nextIs .BracketBegin ts2 = true ∧ an3 = ([], an1.2) ∧ ts3 = ts2)
    (h4 : nextIs .GroupBegin ts3 = true ∧ readArgReq f an2.2 tol mode ts3 = .ok (an4, ts4) ∨
      ¬ nextIs .GroupBegin ts3 = true ∧ an4 = ([], an2.2) ∧ ts4 = ts3) :
    readArgs (f+1) nreq nopt tol mode ts = .ok (an1.1 ++ (an2.1 ++ (an3.1 ++ an4.1)), ts4) := by
  have h3' : (if nextIs .BracketBegin ts2 = true then readArgOpt f an1.2 tol mode ts2
      else .ok (([], an1.2), ts2)) = .ok (an3, ts3) := by
    rcases h3 with ⟨hb, h⟩ | ⟨hb, rfl, rfl⟩
    · rw [if_pos hb, h]
    · rw [if_neg hb]
  have h4' : (if nextIs .GroupBegin ts3 = true then readArgReq f an2.2 tol mode ts3
      else .ok (([], an2.2), ts3)) = .ok (an4, ts4) := by
    rcases h4 with ⟨hb, h⟩ | ⟨hb, rfl, rfl⟩
    · rw [if_pos hb, h]
    · rw [if_neg hb]
  simp only [readArgs, h0, h1, h2, h3', h4', Res.bind_ok, Bool.false_eq_true, ↓reduceIte]

theorem readArgOpt.zero {f : Nat} {n tol mode ts} (h0 : (n == 0) = true) :
    readArgOpt (f+1) n tol mode ts = .ok (([], n), ts) := by
  simp only [readArgOpt, h0, ↓reduceIte]

theorem readArgOpt.group {f : Nat} {n tol mode ts} {o : Tok} {r g ts1 gn ts2}
    (h0 : ¬ (n == 0) = true) (hs : (readSpacer ts).2 = o :: r)
    (hb : (o.cat == TC.BracketBegin) = true)
    (hg : readArg f .bracket o.pos tol mode r = .ok (g, ts1))
    (hn : readArgOpt f (n - 1) tol mode ts1 = .ok (gn, ts2)) :
    readArgOpt (f+1) n tol mode ts = .ok ((g :: gn.1, gn.2), ts2) := by
  simp only [readArgOpt, h0, hs, hb, hg, hn, Res.bind_ok, Bool.false_eq_true, ↓reduceIte]

theorem readArgOpt.none {f : Nat} {n tol mode ts} (h0 : ¬ (n == 0) = true)
    (hs : ∀ (o : Tok) r, (readSpacer ts).2 = o :: r → ¬ (o.cat == TC.BracketBegin) = true) :
    readArgOpt (f+1) n tol mode ts = .ok (([], n), ts) := by
  cases hr : (readSpacer ts).2 with
  | nil => simp only [readArgOpt, h0, hr, Bool.false_eq_true, ↓reduceIte]
  | cons o r => simp only [readArgOpt, h0, hr, hs o r hr, Bool.false_eq_true, ↓reduceIte]

theorem readArgReq.zero {f : Nat} {n tol mode ts} (h0 : (n == 0) = true) :
    readArgReq (f+1) n tol mode ts = .ok (([], n), ts) := by
  simp only [readArgReq, h0, ↓reduceIte]

theorem readArgReq.group {f : Nat} {n tol mode ts} {o : Tok} {r g ts1 gn ts2}
    (h0 : ¬ (n == 0) = true) (hs : (readSpacer ts).2 = o :: r)
    (hb : (o.cat == TC.GroupBegin) = true)
    (hg : readArg f .brace o.pos tol mode r = .ok (g, ts1))
    (hn : readArgReq f (n - 1) tol mode ts1 = .ok (gn, ts2)) :
    readArgReq (f+1) n tol mode ts = .ok ((g :: gn.1, gn.2), ts2) := by
  simp only [readArgReq, h0, hs, hb, hg, hn, Res.bind_ok, Bool.false_eq_true, ↓reduceIte]

theorem readArgReq.command {f : Nat} {n tol mode ts} {o : Tok} {r na ts1 gn ts2}
    (h0 : ¬ (n == 0) = true) (hs : (readSpacer ts).2 = o :: r)
    (hb : ¬ (o.cat == TC.GroupBegin) = true) (hpos : n > 0) (hesc : (o.cat == TC.Escape) = true)
    (hc : readCommand f 0 0 tol mode r = .ok (na, ts1))
    (hn : readArgReq f (n - 1) tol mode ts1 = .ok (gn, ts2)) :
    readArgReq (f+1) n tol mode ts
      = .ok ((.cmd (strip na.1.text) [] [] o.pos :: gn.1, gn.2), ts2) := by
  simp only [readArgReq, h0, hs, hb, hpos, hesc, hc, hn, Res.bind_ok, Bool.false_eq_true,
    ↓reduceIte]

theorem readArgReq.token {f : Nat} {n tol mode ts} {o : Tok} {r gn ts2}
    (h0 : ¬ (n == 0) = true) (hs : (readSpacer ts).2 = o :: r)
    (hb : ¬ (o.cat == TC.GroupBegin) = true) (hpos : n > 0) (hesc : ¬ (o.cat == TC.Escape) = true)
    (hn : readArgReq f (n - 1) tol mode r = .ok (gn, ts2)) :
    readArgReq (f+1) n tol mode ts
      = .ok ((.group .brace [.text o.text (-1)] (-1) :: gn.1, gn.2), ts2) := by
  simp only [readArgReq, h0, hs, hb, hpos, hesc, hn, Res.bind_ok, Bool.false_eq_true, ↓reduceIte]

theorem readArgReq.none {f : Nat} {n tol mode ts} (h0 : ¬ (n == 0) = true)
    (hs : ∀ (o : Tok) r, (readSpacer ts).2 = o :: r →
      ¬ (o.cat == TC.GroupBegin) = true ∧ ¬ n > 0) :
    readArgReq (f+1) n tol mode ts = .ok (([], n), ts) := by
  cases hr : (readSpacer ts).2 with
  | nil => simp only [readArgReq, h0, hr, Bool.false_eq_true, ↓reduceIte]
  | cons o r =>
    simp only [readArgReq, h0, hr, (hs o r hr).1, (hs o r hr).2, Bool.false_eq_true, ↓reduceIte]

theorem readArg.intro {f : Nat} {k pos tol mode ts body ts1}
    (hb : readArgBody f k tol mode ts = .ok (body, ts1)) :
    readArg (f+1) k pos tol mode ts = .ok (.group k body pos, ts1) := by
  simp only [readArg, hb, Res.bind_ok]

theorem readArgBody.nil {f : Nat} {k tol mode} (ht : tol = true) :
    readArgBody (f+1) k tol mode [] = .ok ([], []) := by
  simp only [readArgBody, ht, ↓reduceIte]

theorem readArgBody.close {f : Nat} {k tol mode} {t : Tok} {r} (hend : (t.cat == k.tokEnd) = true) :
    readArgBody (f+1) k tol mode (t :: r) = .ok ([], r) := by
  simp only [readArgBody, hend, ↓reduceIte]

theorem readArgBody.step {f : Nat} {k tol mode} {t : Tok} {r e ts1 es ts2}
    (hend : ¬ (t.cat == k.tokEnd) = true) (he : readExpr f [] tol mode (t :: r) = .ok (e, ts1))
    (hb : readArgBody f k tol mode ts1 = .ok (es, ts2)) :
    readArgBody (f+1) k tol mode (t :: r) = .ok (e :: es, ts2) := by
  simp only [readArgBody, hend, he, hb, Res.bind_ok, Bool.false_eq_true, ↓reduceIte]

end TexSoup
