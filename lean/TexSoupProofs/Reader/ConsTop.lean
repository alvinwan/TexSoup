import TexSoupProofs.Reader.Cons
import TexSoupProofs.Reader.Tolerant
/-!
# Core A/B at the level of `read_tex` and `parse`

Conservation (`readTex_cons`, `parse_cons`) and strict ⇒ tolerant (`readTex_strict_tolerant`,
`parse_strict_tolerant`).
-/
namespace TexSoup

theorem readTex_cons (skip0 : List Str) : ∀ f skip tol ts es, readTex f skip tol ts = .ok es →
    Hyp skip0 ts → (∀ x, memStr x skip = true → memStr x skip0 = true) → noBareL es = true →
    Del tol ts (serL es) :=
  fun _ skip tol _ _ h hy hsk => readTex_induct
    (P := fun _ ts es => Hyp skip0 ts → noBareL es = true → Del tol ts (serL es))
    (fun _ _ => .nil)
    (fun he _ ih hy hnb => by
      simp only [noBareL, Bool.and_eq_true] at hnb
      obtain ⟨c, hc, d⟩ := (consAt skip0 _).1 _ _ _ _ _ _ he hy hsk hnb.1
      rw [hc] at hy ⊢
      exact d.append (ih hy.suffix hnb.2))
    h hy

theorem readTex_strict_tolerant : ∀ f skip ts es, readTex f skip false ts = .ok es →
    readTex f skip true ts = .ok es :=
  fun _ skip _ _ => readTex_induct (P := fun f ts es => readTex f skip true ts = .ok es) rfl
    fun he _ ih => by simp only [readTex, (strictTolerantAt _).1 _ _ _ _ he, ih]

/-- strict ⇒ tolerant for `parse` (C07a) -/
theorem parse_strict_tolerant (skip : List Str) (s : Str) (es : List Expr)
    (h : parse false skip s = .ok es) : parse true skip s = .ok es := by
  unfold parse at h ⊢
  cases ht : tokenize s with
  | none => rw [ht] at h; cases h
  | some ts =>
    rw [ht] at h
    exact readTex_strict_tolerant _ _ _ _ h

/-- conservation for `parse` in terms of the tokens (C08 strict, C07c tolerant) -/
theorem parse_cons (tol : Bool) (skip : List Str) (s : Str) (ts : List Tok) (es : List Expr)
    (ht : tokenize s = some ts) (h : parse tol skip s = .ok es)
    (hy : Hyp (Tables.skipEnvNames ++ skip) ts) (hnb : noBareL es = true) :
    Del tol ts (serL es) := by
  rw [parse_eq_readTex ht] at h
  exact readTex_cons _ _ _ _ _ _ h hy (fun _ hx => hx) hnb

end TexSoup
