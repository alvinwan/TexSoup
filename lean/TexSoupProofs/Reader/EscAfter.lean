import TexSoupProofs.Reader.Progress
/-!
# Conditions on what follows an escape token

The name of a command is whatever token follows the backslash, so the hypotheses under which the
reader avoids an error or keeps a balance speak of "every token directly after an `Escape`".
`EscAfter P ts` is that condition with `P` on the token and the tokens behind it, `EscNext P ts`
the special case where `P` looks only at the token's text. Both are closed under taking suffixes,
so they follow the reader through its calls, and both have a Boolean check.
-/
namespace TexSoup

def EscAfter (P : Tok → List Tok → Prop) (ts : List Tok) : Prop :=
  ∀ pre esc n r, ts = pre ++ esc :: n :: r → esc.cat = TC.Escape → P n r

theorem EscAfter.suf {P : Tok → List Tok → Prop} {ts rest : List Tok} (h : EscAfter P ts)
    (hs : Suf ts rest) : EscAfter P rest := by
  obtain ⟨c, rfl⟩ := hs
  intro pre esc n r he
  exact h (c ++ pre) esc n r (by rw [he, List.append_assoc])

theorem EscAfter.tail {P : Tok → List Tok → Prop} {t : Tok} {ts : List Tok}
    (h : EscAfter P (t :: ts)) : EscAfter P ts := h.suf Suf.tail

theorem EscAfter.head {P : Tok → List Tok → Prop} {esc n : Tok} {r : List Tok}
    (h : EscAfter P (esc :: n :: r)) (hc : esc.cat = TC.Escape) : P n r := h [] esc n r rfl hc

theorem EscAfter.mono {P Q : Tok → List Tok → Prop} {ts : List Tok} (hPQ : ∀ n r, P n r → Q n r)
    (h : EscAfter P ts) : EscAfter Q ts :=
  fun pre esc n r he hc => hPQ _ _ (h pre esc n r he hc)

def escAfterB (p : Tok → List Tok → Bool) : List Tok → Bool
  | [] => true
  | esc :: r =>
    (match r with
      | n :: r' => !(esc.cat == TC.Escape) || p n r'
      | [] => true) && escAfterB p r

theorem escAfterB_sound (p : Tok → List Tok → Bool) : ∀ ts, escAfterB p ts = true →
    EscAfter (fun n r => p n r = true) ts := by
  intro ts
  induction ts with
  | nil => intro _ pre esc n r he; simp at he
  | cons t ts ih =>
    intro h pre esc n r he hc
    simp only [escAfterB, Bool.and_eq_true] at h
    cases pre with
    | nil =>
      simp only [List.nil_append, List.cons.injEq] at he
      obtain ⟨rfl, rfl⟩ := he
      have h1 := h.1
      simp only [hc, beq_self_eq_true, Bool.not_true, Bool.false_or] at h1
      exact h1
    | cons u pre =>
      simp only [List.cons_append, List.cons.injEq] at he
      exact ih h.2 pre esc n r he.2 hc

def EscNext (P : Str → Prop) (ts : List Tok) : Prop :=
  ∀ pre esc n r, ts = pre ++ esc :: n :: r → esc.cat = TC.Escape → P n.text

theorem EscNext.escAfter {P : Str → Prop} {ts : List Tok} (h : EscNext P ts) :
    EscAfter (fun n _ => P n.text) ts := h

theorem EscNext.suf {P : Str → Prop} {ts rest : List Tok} (h : EscNext P ts) (hs : Suf ts rest) :
    EscNext P rest := h.escAfter.suf hs

theorem EscNext.tail {P : Str → Prop} {t : Tok} {ts : List Tok} (h : EscNext P (t :: ts)) :
    EscNext P ts := h.suf Suf.tail

theorem EscNext.mono {P Q : Str → Prop} {ts : List Tok} (hPQ : ∀ s, P s → Q s)
    (h : EscNext P ts) : EscNext Q ts :=
  h.escAfter.mono fun _ _ => hPQ _

theorem EscNext.of_forall {P : Str → Prop} {ts : List Tok} (h : ∀ t ∈ ts, P t.text) :
    EscNext P ts := by
  intro pre esc n r he _
  exact h n (by rw [he]; simp)

def escNextB (p : Str → Bool) : List Tok → Bool
  | [] => true
  | esc :: r =>
    (match r with
      | n :: _ => !(esc.cat == TC.Escape) || p n.text
      | [] => true) && escNextB p r

theorem escNextB_eq (p : Str → Bool) (ts : List Tok) :
    escNextB p ts = escAfterB (fun n _ => p n.text) ts := by
  induction ts with
  | nil => rfl
  | cons t ts ih => simp only [escNextB, escAfterB, ih]

theorem escNextB_sound (p : Str → Bool) (ts : List Tok) (h : escNextB p ts = true) :
    EscNext (fun s => p s = true) ts :=
  escAfterB_sound _ ts (escNextB_eq p ts ▸ h)

end TexSoup
