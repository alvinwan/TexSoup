import TexSoupProofs.Reader.Induct
/-!
# The reader is monotone in fuel, tolerance and mode

A call that succeeds still succeeds, with the same result, when it is given more fuel, when it is
made tolerant, and when math mode is replaced by non-math mode. Fuel only bounds the depth,
tolerance only turns two errors (an unclosed environment, an unclosed group) into results, and
math mode only forbids `\item`: none of them is looked at on the way to a result. One induction
over the successful runs proves the three together (`reader_mono`); each rule rebuilds the call
with the new parameters from the branch conditions, which do not change, and the induction
hypotheses.
-/
namespace TexSoup

namespace Gram

/-- `m2` forbids no more than `m1`: the same mode, or non-math mode for math mode. -/
def MLe (m1 m2 : Mode) : Prop := m1 = m2 ∨ (m1 = .math ∧ m2 = .nonMath)

namespace MLe
variable {m1 m2 : Mode}

theorem refl (m : Mode) : MLe m m := .inl rfl
theorem math_nonMath : MLe .math .nonMath := .inr ⟨rfl, rfl⟩

theorem not_math (h : MLe m1 m2) (hm : ¬ (m1 == Mode.math) = true) :
    ¬ (m2 == Mode.math) = true := by
  rcases h with rfl | ⟨rfl, rfl⟩
  · exact hm
  · decide

theorem ne_special_eq (h : MLe m1 m2) : (m2 != Mode.special) = (m1 != Mode.special) := by
  rcases h with rfl | ⟨rfl, rfl⟩ <;> rfl

/-- The modes `readExpr` and `readCommand` pass on (`cmdMode`, the mode of an environment's
body) replace the given mode by a fixed one under a condition on names. -/
theorem ite {c : Prop} [Decidable c] (x : Mode) (h : MLe m1 m2) :
    MLe (if c then x else m1) (if c then x else m2) := by
  split
  · exact refl x
  · exact h

end MLe
end Gram
open Gram (MLe)

@[elab_as_elim]
theorem fuelAbove {P : Nat → Prop} {f g : Nat} (hg : f + 1 ≤ g) (h : ∀ g, f ≤ g → P (g + 1)) :
    P g := by
  cases g with
  | zero => exact absurd hg (Nat.not_succ_le_zero f)
  | succ g => exact h g (Nat.le_of_succ_le_succ hg)

theorem reader_mono : ∀ f : Nat, ReadsAll
    (fun f skip tol mode ts e rest => ∀ g tol' mode', f ≤ g → (tol = true → tol' = true) →
      MLe mode mode' → readExpr g skip tol' mode' ts = .ok (e, rest))
    (fun f ts es rest => ∀ g, f ≤ g → readItem g ts = .ok (es, rest))
    (fun f k pos tol ts e rest => ∀ g tol', f ≤ g → (tol = true → tol' = true) →
      readMathEnv g k pos tol' ts = .ok (e, rest))
    (fun f k tol ts es rest => ∀ g tol', f ≤ g → (tol = true → tol' = true) →
      readMathBody g k tol' ts = .ok (es, rest))
    (fun f name args pos skip tol mode ts e rest => ∀ g tol' mode', f ≤ g →
      (tol = true → tol' = true) → MLe mode mode' →
      readEnv g name args pos skip tol' mode' ts = .ok (e, rest))
    (fun f skip tol mode ts be rest => ∀ g tol' mode', f ≤ g → (tol = true → tol' = true) →
      MLe mode mode' → readEnvBody g skip tol' mode' ts = .ok (be, rest))
    (fun f nreq nopt tol mode ts na rest => ∀ g tol' mode', f ≤ g → (tol = true → tol' = true) →
      MLe mode mode' → readCommand g nreq nopt tol' mode' ts = .ok (na, rest))
    (fun f nreq nopt tol mode ts args rest => ∀ g tol' mode', f ≤ g → (tol = true → tol' = true) →
      MLe mode mode' → readArgs g nreq nopt tol' mode' ts = .ok (args, rest))
    (fun f n tol mode ts gn rest => ∀ g tol' mode', f ≤ g → (tol = true → tol' = true) →
      MLe mode mode' → readArgOpt g n tol' mode' ts = .ok (gn, rest))
    (fun f n tol mode ts gn rest => ∀ g tol' mode', f ≤ g → (tol = true → tol' = true) →
      MLe mode mode' → readArgReq g n tol' mode' ts = .ok (gn, rest))
    (fun f k pos tol mode ts e rest => ∀ g tol' mode', f ≤ g → (tol = true → tol' = true) →
      MLe mode mode' → readArg g k pos tol' mode' ts = .ok (e, rest))
    (fun f k tol mode ts es rest => ∀ g tol' mode', f ≤ g → (tol = true → tol' = true) →
      MLe mode mode' → readArgBody g k tol' mode' ts = .ok (es, rest))
    f :=
  reader_induct
    (expr_math := fun hk _ i _ _ _ hg ht _ => fuelAbove hg fun g hg =>
      readExpr.math hk (i g _ hg ht))
    (expr_item := fun hk hesc _ ic hitem hm _ ii _ _ _ hg ht hr => fuelAbove hg fun g hg =>
      readExpr.item hk hesc (ic g _ _ hg ht hr) hitem (hr.not_math hm) (ii g hg))
    (expr_skipEnv := fun hk hesc _ ic hitem hb hargs hs h _ _ _ hg ht hr => fuelAbove hg fun g hg =>
      readExpr.skipEnv hk hesc (ic g _ _ hg ht hr) hitem (hr.ne_special_eq ▸ hb) hargs hs h)
    (expr_env := fun hk hesc _ ic hitem hb hargs hs _ ie _ _ _ hg ht hr => fuelAbove hg fun g hg =>
      readExpr.env hk hesc (ic g _ _ hg ht hr) hitem (hr.ne_special_eq ▸ hb) hargs hs
        (ie g _ _ hg ht (hr.ite _)))
    (expr_cmd := fun hk hesc _ ic hitem hb _ _ _ hg ht hr => fuelAbove hg fun g hg =>
      readExpr.cmd hk hesc (ic g _ _ hg ht hr) hitem (hr.ne_special_eq ▸ hb))
    (expr_group := fun hk hesc hgb _ ia _ _ _ hg ht _ => fuelAbove hg fun g hg =>
      readExpr.group hk hesc hgb (ia g _ _ hg ht (.refl _)))
    (expr_text := fun hk hesc hgb _ _ _ hg _ _ => fuelAbove hg fun _ _ => readExpr.text hk hesc hgb)
    (item_nil := fun _ hg => fuelAbove hg fun _ _ => readItem.nil)
    (item_stop := fun hesc _ ic hs _ hg => fuelAbove hg fun g hg =>
      readItem.stop hesc (ic g _ _ hg id (.refl _)) hs)
    (item_close := fun hesc hge _ hg => fuelAbove hg fun _ _ => readItem.close hesc hge)
    (item_step := fun hp hq _ ie _ ii _ hg => fuelAbove hg fun g hg =>
      readItem.step
        (fun h => let ⟨na, ts', _, ic, hs⟩ := hp h; ⟨na, ts', ic g _ _ hg id (.refl _), hs⟩)
        hq (ie g _ _ hg id (.refl _)) (ii g hg))
    (mathEnv_intro := fun _ ib hend _ _ hg ht => fuelAbove hg fun g hg =>
      readMathEnv.intro (ib g _ hg ht) hend)
    (mathBody_nil := fun _ _ hg _ => fuelAbove hg fun _ _ => readMathBody.nil)
    (mathBody_stop := fun hend _ _ hg _ => fuelAbove hg fun _ _ => readMathBody.stop hend)
    (mathBody_step := fun hend _ ie _ ib _ _ hg ht => fuelAbove hg fun g hg =>
      readMathBody.step hend (ie g _ _ hg ht (.refl _)) (ib g _ hg ht))
    (env_unclosed := fun _ ib herr htol _ _ _ hg ht hr => fuelAbove hg fun g hg =>
      readEnv.unclosed (ib g _ _ hg ht hr) herr (ht htol))
    (env_closed := fun _ ib herr _ ic _ _ _ hg ht hr => fuelAbove hg fun g hg =>
      readEnv.closed (ib g _ _ hg ht hr) herr (ic g _ _ hg ht hr))
    (envBody_nil := fun _ _ _ hg _ _ => fuelAbove hg fun _ _ => readEnvBody.nil)
    (envBody_stop := fun hesc _ ic hend _ _ _ hg ht hr => fuelAbove hg fun g hg =>
      readEnvBody.stop hesc (ic g _ _ hg ht hr) hend)
    (envBody_step := fun _ hp _ ie _ ib _ _ _ hg ht hr => fuelAbove hg fun g hg =>
      readEnvBody.step
        (fun h => let ⟨na, ts', _, ic, hs⟩ := hp h; ⟨na, ts', ic g _ _ hg ht hr, hs⟩)
        (ie g _ _ hg ht hr) (ib g _ _ hg ht hr))
    (command_nil := fun _ ia _ _ _ hg ht hr => fuelAbove hg fun g hg =>
      readCommand.nil (ia g _ _ hg ht (hr.ite _)))
    (command_cons := fun _ ia _ _ _ hg ht hr => fuelAbove hg fun g hg =>
      readCommand.cons (ia g _ _ hg ht (hr.ite _)))
    (args_none := fun h0 _ _ _ hg _ _ => fuelAbove hg fun _ _ => readArgs.none h0)
    (args_run := fun h0 _ i1 _ i2 p3 p4 _ _ _ hg ht hr => fuelAbove hg fun g hg =>
      readArgs.run h0 (i1 g _ _ hg ht hr) (i2 g _ _ hg ht hr)
        (p3.imp (fun h => ⟨h.1, h.2.2 g _ _ hg ht hr⟩) id)
        (p4.imp (fun h => ⟨h.1, h.2.2 g _ _ hg ht hr⟩) id))
    (argOpt_zero := fun h0 _ _ _ hg _ _ => fuelAbove hg fun _ _ => readArgOpt.zero h0)
    (argOpt_group := fun h0 hs hb _ ia _ io _ _ _ hg ht hr => fuelAbove hg fun g hg =>
      readArgOpt.group h0 hs hb (ia g _ _ hg ht hr) (io g _ _ hg ht hr))
    (argOpt_none := fun h0 hs _ _ _ hg _ _ => fuelAbove hg fun _ _ => readArgOpt.none h0 hs)
    (argReq_zero := fun h0 _ _ _ hg _ _ => fuelAbove hg fun _ _ => readArgReq.zero h0)
    (argReq_group := fun h0 hs hb _ ia _ ir _ _ _ hg ht hr => fuelAbove hg fun g hg =>
      readArgReq.group h0 hs hb (ia g _ _ hg ht hr) (ir g _ _ hg ht hr))
    (argReq_command := fun h0 hs hb hpos hesc _ ic _ ir _ _ _ hg ht hr => fuelAbove hg fun g hg =>
      readArgReq.command h0 hs hb hpos hesc (ic g _ _ hg ht hr) (ir g _ _ hg ht hr))
    (argReq_token := fun h0 hs hb hpos hesc _ ir _ _ _ hg ht hr => fuelAbove hg fun g hg =>
      readArgReq.token h0 hs hb hpos hesc (ir g _ _ hg ht hr))
    (argReq_none := fun h0 hs _ _ _ hg _ _ => fuelAbove hg fun _ _ => readArgReq.none h0 hs)
    (arg_intro := fun _ ib _ _ _ hg ht hr => fuelAbove hg fun g hg =>
      readArg.intro (ib g _ _ hg ht hr))
    (argBody_nil := fun htol _ _ _ hg ht _ => fuelAbove hg fun _ _ => readArgBody.nil (ht htol))
    (argBody_close := fun hend _ _ _ hg _ _ => fuelAbove hg fun _ _ => readArgBody.close hend)
    (argBody_step := fun hend _ ie _ ib _ _ _ hg ht hr => fuelAbove hg fun g hg =>
      readArgBody.step hend (ie g _ _ hg ht hr) (ib g _ _ hg ht hr))

theorem readCommand_mono {f g : Nat} {nreq nopt tol tol' mode mode' ts}
    {r : (Tok × List Expr) × List Tok} (h : readCommand f nreq nopt tol mode ts = .ok r)
    (hg : f ≤ g) (ht : tol = true → tol' = true) (hm : MLe mode mode') :
    readCommand g nreq nopt tol' mode' ts = .ok r :=
  (reader_mono f).2.2.2.2.2.2.1 _ _ _ _ _ _ _ h g _ _ hg ht hm

theorem readArg_mono {f g : Nat} {k pos tol tol' mode mode' ts} {r : Expr × List Tok}
    (h : readArg f k pos tol mode ts = .ok r) (hg : f ≤ g) (ht : tol = true → tol' = true)
    (hm : MLe mode mode') : readArg g k pos tol' mode' ts = .ok r :=
  (reader_mono f).2.2.2.2.2.2.2.2.2.2.1 _ _ _ _ _ _ _ h g _ _ hg ht hm

end TexSoup
