import TexSoupProofs.Reader.ConsDefs
/-!
# Helpers for conservation: the end of a verbatim-like environment, the texts of delimiter tokens
-/
namespace TexSoup

theorem bufStartsWith_nil_false (name : Str) : bufStartsWith (endMarker name) [] = false := rfl

theorem Hyp.skipEnd {skip0 : List Str} {tol : Bool} {name : Str} {b r : List Tok}
    (hy : Hyp skip0 (b ++ r)) (hn : memStr name skip0 = true)
    (hs : bufStartsWith (endMarker name) r = true) :
    Cons tol (b ++ r) (flat b ++ endMarker name) (r.drop 5) :=
  ⟨b ++ r.take 5, by rw [List.append_assoc, List.take_append_drop],
    hy.skipPlain name hn b r rfl hs ▸ (Del.flat b).append (Del.flat _)⟩

theorem text_of_mkindBegin {c : Tok} {k : MKind} (hs : shapedB c = true)
    (hk : mkindOfBegin c.cat = some k) : c.text = k.open := by
  unfold shapedB at hs
  unfold mkindOfBegin at hk
  split at hk <;> cases hk <;> rename_i h <;> rw [h] at hs <;> exact beq_iff_eq.mp hs

theorem text_of_mkindEnd {c : Tok} {k : MKind} (hs : shapedB c = true)
    (hk : (c.cat == k.tokEnd) = true) : c.text = k.close := by
  unfold shapedB at hs
  rw [beq_iff_eq.mp hk] at hs
  cases k <;> exact beq_iff_eq.mp hs

theorem text_of_gkindBegin {c : Tok} {k : GKind} (hs : shapedB c = true)
    (hk : gkindOfBegin c.cat = some k) : c.text = k.open := by
  unfold shapedB at hs
  unfold gkindOfBegin at hk
  split at hk <;> cases hk <;> rename_i h <;> rw [h] at hs <;> exact beq_iff_eq.mp hs

theorem text_of_gkindEnd {c : Tok} {k : GKind} (hs : shapedB c = true)
    (hk : (c.cat == k.tokEnd) = true) : c.text = k.close := by
  unfold shapedB at hs
  rw [beq_iff_eq.mp hk] at hs
  cases k <;> exact beq_iff_eq.mp hs

theorem text_of_escape {c : Tok} (hs : shapedB c = true) (hk : (c.cat == TC.Escape) = true) :
    c.text = [92] := by
  unfold shapedB at hs
  rw [beq_iff_eq.mp hk] at hs
  exact beq_iff_eq.mp hs

theorem gkindOfBegin_tokBegin {c : TC} {k : GKind} (h : (c == k.tokBegin) = true) :
    gkindOfBegin c = some k := by
  cases k <;> (rw [beq_iff_eq.mp h]; rfl)

theorem isOpener_of_gkind {o : Tok} {k : GKind} (hk : gkindOfBegin o.cat = some k) :
    isOpener o = true := by
  unfold isOpener
  unfold gkindOfBegin at hk
  split at hk <;> rename_i h <;> first | (rw [h]; rfl) | cases hk

theorem strBegin_eq : strBegin = 92 :: (sBegin ++ [123]) := by decide
theorem strEnd_eq : strEnd = 92 :: (sEnd ++ [123]) := by decide

end TexSoup
