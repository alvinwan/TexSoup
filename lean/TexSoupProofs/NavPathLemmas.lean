import TexSoupProofs.NavLemmas
/-!
# Lemmas about the path-annotated views (`TexSoupModel/NavPath.lean`)
-/
namespace TexSoup

theorem mem_idxP {mk : Nat → Step} {j0 : Nat} {l : List Expr} {st : Step} {x : Expr} :
    (st, x) ∈ idxP mk j0 l ↔ ∃ j, st = mk (j0 + j) ∧ l[j]? = some x := by
  induction l generalizing j0 with
  | nil => simp [idxP]
  | cons y ys ih =>
    simp only [idxP, List.mem_cons, Prod.mk.injEq, ih]
    constructor
    · rintro (⟨rfl, rfl⟩ | ⟨j, rfl, hj⟩)
      · exact ⟨0, rfl, rfl⟩
      · exact ⟨j + 1, by rw [Nat.add_right_comm, Nat.add_assoc], hj⟩
    · rintro ⟨j, rfl, hj⟩
      cases j with
      | zero => exact Or.inl ⟨rfl, (Option.some.inj hj).symm⟩
      | succ j => exact Or.inr ⟨j, by rw [Nat.add_right_comm, Nat.add_assoc], hj⟩

theorem idxP_map_snd (mk : Nat → Step) (j0 : Nat) (l : List Expr) :
    (idxP mk j0 l).map Prod.snd = l := by
  induction l generalizing j0 with
  | nil => rfl
  | cons y ys ih => simp [idxP, ih]

theorem idxP_nodup (mk : Nat → Step) (hmk : ∀ a b, mk a = mk b → a = b) (j0 : Nat) (l : List Expr) :
    ((idxP mk j0 l).map Prod.fst).Nodup := by
  induction l generalizing j0 with
  | nil => simp [idxP]
  | cons y ys ih =>
    simp only [idxP, List.map_cons, List.nodup_cons]
    refine ⟨?_, ih _⟩
    intro h
    obtain ⟨⟨st, x⟩, hm, hst⟩ := List.mem_map.1 h
    obtain ⟨j, h1, _⟩ := mem_idxP.1 hm
    have := hmk _ _ (show mk (j0 + 1 + j) = mk j0 by rw [← h1]; exact hst)
    omega

theorem mem_allArgsP {i0 : Nat} {as : List Expr} {st : Step} {x : Expr} :
    (st, x) ∈ allArgsP i0 as ↔
      ∃ i j a, st = .arg (i0 + i) j ∧ as[i]? = some a ∧ a.body[j]? = some x := by
  induction as generalizing i0 with
  | nil => simp [allArgsP]
  | cons b bs ih =>
    simp only [allArgsP, List.mem_append, mem_idxP, ih]
    constructor
    · rintro (⟨j, rfl, hj⟩ | ⟨i, j, a, rfl, hi, hj⟩)
      · exact ⟨0, j, b, by rw [Nat.zero_add]; rfl, rfl, hj⟩
      · exact ⟨i + 1, j, a, by rw [Nat.add_right_comm, Nat.add_assoc], hi, hj⟩
    · rintro ⟨i, j, a, rfl, hi, hj⟩
      cases i with
      | zero =>
        cases hi
        exact Or.inl ⟨j, by rw [Nat.zero_add]; rfl, hj⟩
      | succ i => exact Or.inr ⟨i, j, a, by rw [Nat.add_right_comm, Nat.add_assoc], hi, hj⟩

theorem allArgsP_map_snd (i0 : Nat) (as : List Expr) :
    (allArgsP i0 as).map Prod.snd = as.flatMap Expr.body := by
  induction as generalizing i0 with
  | nil => rfl
  | cons b bs ih => simp [allArgsP, idxP_map_snd, ih]

theorem allArgsP_nodup (i0 : Nat) (as : List Expr) : ((allArgsP i0 as).map Prod.fst).Nodup := by
  induction as generalizing i0 with
  | nil => simp [allArgsP]
  | cons b bs ih =>
    simp only [allArgsP, List.map_append, List.nodup_append]
    refine ⟨idxP_nodup _ (fun a b h => by injection h) _ _, ih _, ?_⟩
    intro s hs t ht
    obtain ⟨⟨st, x⟩, hm, rfl⟩ := List.mem_map.1 hs
    obtain ⟨⟨st', x'⟩, hm', rfl⟩ := List.mem_map.1 ht
    obtain ⟨j, h1, _⟩ := mem_idxP.1 hm
    obtain ⟨i, j', a, h2, _⟩ := mem_allArgsP.1 hm'
    simp only at *
    subst h1 h2
    intro h
    injection h with h _
    omega

theorem mem_allP {e : Expr} {st : Step} {x : Expr} : (st, x) ∈ allP e ↔ stepGet e st = some x := by
  simp only [allP, List.mem_append, mem_allArgsP, mem_idxP]
  cases st with
  | arg i j =>
    rw [stepGet_arg_some]
    constructor
    · rintro (⟨i', j', a, h, hi, hj⟩ | ⟨j', h, _⟩)
      · injection h with h1 h2
        subst h1 h2
        exact ⟨a, by simpa using hi, hj⟩
      · exact absurd h (by simp)
    · rintro ⟨a, hi, hj⟩
      exact Or.inl ⟨i, j, a, by simp, hi, hj⟩
  | body j =>
    rw [stepGet_body_some]
    constructor
    · rintro (⟨i', j', a, h, _⟩ | ⟨j', h, hj⟩)
      · exact absurd h (by simp)
      · injection h with h
        subst h
        simpa using hj
    · intro hj
      exact Or.inr ⟨j, by simp, hj⟩

theorem allP_nodup (e : Expr) : ((allP e).map Prod.fst).Nodup := by
  simp only [allP, List.map_append, List.nodup_append]
  refine ⟨allArgsP_nodup _ _, idxP_nodup _ (fun a b h => by injection h) _ _, ?_⟩
  intro s hs t ht
  obtain ⟨⟨st, x⟩, hm, rfl⟩ := List.mem_map.1 hs
  obtain ⟨⟨st', x'⟩, hm', rfl⟩ := List.mem_map.1 ht
  obtain ⟨i, j', a, h2, _⟩ := mem_allArgsP.1 hm
  obtain ⟨j, h1, _⟩ := mem_idxP.1 hm'
  simp only at *
  subst h1 h2
  simp

theorem allP_map_snd (e : Expr) : (allP e).map Prod.snd = e.args.flatMap Expr.body ++ e.body := by
  simp [allP, allArgsP_map_snd, idxP_map_snd]

theorem mem_contentsP {e : Expr} {st : Step} {x : Expr} :
    (st, x) ∈ contentsP e ↔ stepGet e st = some x ∧ x.isBlankText = false := by
  simp [contentsP, mem_allP]

theorem contentsP_nodup (e : Expr) : ((contentsP e).map Prod.fst).Nodup :=
  List.Nodup.sublist (List.Sublist.map _ List.filter_sublist) (allP_nodup e)

theorem contentsOf_of_args_nil {a : Expr} (h : a.args = []) : contentsOf a = dropBlank a.body := by
  rw [contentsOf_eq, h]; rfl

theorem contentsP_map_snd {e : Expr} (h : ∀ a ∈ e.args, a.args = []) :
    (contentsP e).map Prod.snd = contentsOf e := by
  have : (contentsP e).map Prod.snd = dropBlank ((allP e).map Prod.snd) := by
    simp [contentsP, dropBlank, List.filter_map, Function.comp_def]
  rw [this, allP_map_snd, dropBlank_append, contentsOf_eq, dropBlank_flatMap]
  congr 1
  exact flatMap_congr' (fun a ha => (contentsOf_of_args_nil (h a ha)).symm)

theorem childrenP_map_snd {e : Expr} (h : ∀ a ∈ e.args, a.args = []) :
    (childrenP e).map Prod.snd = childrenOf e := by
  rw [childrenOf, ← contentsP_map_snd h]
  simp [childrenP, List.filter_map, Function.comp_def]

theorem flatArgsL_mem {l : List Expr} (h : flatArgsL l = true) {x : Expr} (hx : x ∈ l) :
    x.flatArgs = true := by
  induction l with
  | nil => simp at hx
  | cons y ys ih =>
    simp only [flatArgsL, Bool.and_eq_true] at h
    rcases List.mem_cons.1 hx with rfl | hx
    · exact h.1
    · exact ih h.2 hx

theorem flatArgsA_mem {l : List Expr} (h : flatArgsA l = true) {a : Expr} (ha : a ∈ l) :
    a.args = [] ∧ a.flatArgs = true := by
  induction l with
  | nil => simp at ha
  | cons y ys ih =>
    simp only [flatArgsA, Bool.and_eq_true, List.isEmpty_iff] at h
    rcases List.mem_cons.1 ha with rfl | ha
    · exact h.1
    · exact ih h.2 ha

theorem flatArgs_eq (e : Expr) : e.flatArgs = (flatArgsA e.args && flatArgsL e.body) := by
  cases e <;> rfl

theorem flatArgs_args {e : Expr} (h : e.flatArgs = true) {a : Expr} (ha : a ∈ e.args) :
    a.args = [] ∧ a.flatArgs = true := by
  rw [flatArgs_eq, Bool.and_eq_true] at h
  exact flatArgsA_mem h.1 ha

theorem flatArgs_body {e : Expr} (h : e.flatArgs = true) {x : Expr} (hx : x ∈ e.body) :
    x.flatArgs = true := by
  rw [flatArgs_eq, Bool.and_eq_true] at h
  exact flatArgsL_mem h.2 hx

theorem flatArgs_step {e : Expr} (h : e.flatArgs = true) {st : Step} {y : Expr}
    (hy : stepGet e st = some y) : y.flatArgs = true := by
  cases st with
  | arg i j =>
    obtain ⟨a, h1, h2⟩ := stepGet_arg_some.1 hy
    exact flatArgs_body (flatArgs_args h (List.mem_of_getElem? h1)).2 (List.mem_of_getElem? h2)
  | body j => exact flatArgs_body h (List.mem_of_getElem? (stepGet_body_some.1 hy))

theorem flatArgs_rootWrap {es : List Expr} : (rootWrap es).flatArgs = flatArgsL es := by
  simp [rootWrap, Expr.flatArgs, flatArgsA]

theorem descP_of_isText {x : Expr} (h : x.isText = true) (pre : Path) : descP pre x = [] := by
  cases x <;> simp_all [Expr.isText, descP]

theorem descListP_eq (pre : Path) (mk : Nat → Step) (j0 : Nat) (l : List Expr) :
    descListP pre mk j0 l = (idxP mk j0 l).flatMap (fun sx => descP (pre ++ [sx.1]) sx.2) := by
  induction l generalizing j0 with
  | nil => simp [descListP, idxP]
  | cons y ys ih => simp [descListP, idxP, ih]

theorem descInnerP_eq (pre : Path) (i : Nat) (a : Expr) :
    descInnerP pre i a = descListP pre (Step.arg i) 0 a.body := by
  cases a <;> simp [descInnerP, Expr.body, descListP]

theorem descArgsP_eq (pre : Path) (i0 : Nat) (as : List Expr) :
    descArgsP pre i0 as = (allArgsP i0 as).flatMap (fun sx => descP (pre ++ [sx.1]) sx.2) := by
  induction as generalizing i0 with
  | nil => simp [descArgsP, allArgsP]
  | cons b bs ih => simp [descArgsP, allArgsP, ih, descInnerP_eq, descListP_eq]

theorem descP_eq (pre : Path) (e : Expr) :
    descP pre e = tagP pre (contentsP e) ++
      (contentsP e).flatMap (fun sx => descP (pre ++ [sx.1]) sx.2) := by
  have h : (contentsP e).flatMap (fun sx => descP (pre ++ [sx.1]) sx.2)
      = (allP e).flatMap (fun sx => descP (pre ++ [sx.1]) sx.2) := by
    refine flatMap_filter_of_nil _ _ (fun sx hsx => ?_) _
    exact descP_of_isText (isText_of_isBlankText (by simpa using hsx)) _
  rw [h]
  cases e <;>
    simp [descP, allP, Expr.args, Expr.body, descArgsP_eq, descListP_eq, allArgsP, contentsP, idxP,
      tagP]

theorem descP_prefix (pre : Path) (e : Expr) :
    descP pre e = (descP [] e).map (fun px => (pre ++ px.1, px.2)) := by
  induction e using Expr.stepInd generalizing pre with
  | h e ih =>
    rw [descP_eq pre, descP_eq []]
    simp only [List.map_append, tagP, List.map_map, List.map_flatMap, List.nil_append]
    congr 1
    refine flatMap_congr' (fun sx hsx => ?_)
    have hs := (mem_contentsP.1 hsx).1
    rw [ih _ _ hs (pre ++ [sx.1]), ih _ _ hs [sx.1]]
    simp [List.map_map, Function.comp_def]

mutual
/-- Pre-order transitive closure of `contentsP`: every node reachable from `e` through
argument contents and bodies, with its path (prefix `pre`). -/
def closureP (pre : Path) : Expr → List (Path × Expr)
  | .text _ _ => []
  | .cmd _ a b _ => closureArgsP pre 0 a ++ closureListP pre Step.body 0 b
  | .nenv _ a b _ => closureArgsP pre 0 a ++ closureListP pre Step.body 0 b
  | .math _ b _ => closureListP pre Step.body 0 b
  | .group _ b _ => closureListP pre Step.body 0 b
def closureListP (pre : Path) (mk : Nat → Step) : Nat → List Expr → List (Path × Expr)
  | _, [] => []
  | j, e :: es =>
    (if e.isBlankText then [] else (pre ++ [mk j], e) :: closureP (pre ++ [mk j]) e)
      ++ closureListP pre mk (j + 1) es
def closureArgsP (pre : Path) : Nat → List Expr → List (Path × Expr)
  | _, [] => []
  | i, a :: as => closureInnerP pre i a ++ closureArgsP pre (i + 1) as
def closureInnerP (pre : Path) (i : Nat) : Expr → List (Path × Expr)
  | .text _ _ => []
  | .cmd _ _ b _ => closureListP pre (Step.arg i) 0 b
  | .nenv _ _ b _ => closureListP pre (Step.arg i) 0 b
  | .math _ b _ => closureListP pre (Step.arg i) 0 b
  | .group _ b _ => closureListP pre (Step.arg i) 0 b
end

/-- `x` is a command or environment called `n` (`TexText` has no `__match__`). -/
def Expr.named (n : Str) (x : Expr) : Bool := !x.isText && x.name == n

mutual
/-- All commands and environments named `n` strictly below `e`, with their paths, in
pre-order over argument-group contents and bodies. -/
def occFrom (n : Str) (pre : Path) : Expr → List (Path × Expr)
  | .text _ _ => []
  | .cmd _ a b _ => occArgs n pre 0 a ++ occList n pre Step.body 0 b
  | .nenv _ a b _ => occArgs n pre 0 a ++ occList n pre Step.body 0 b
  | .math _ b _ => occList n pre Step.body 0 b
  | .group _ b _ => occList n pre Step.body 0 b
def occList (n : Str) (pre : Path) (mk : Nat → Step) : Nat → List Expr → List (Path × Expr)
  | _, [] => []
  | j, e :: es =>
    ((if e.named n then [(pre ++ [mk j], e)] else []) ++ occFrom n (pre ++ [mk j]) e)
      ++ occList n pre mk (j + 1) es
def occArgs (n : Str) (pre : Path) : Nat → List Expr → List (Path × Expr)
  | _, [] => []
  | i, a :: as => occInner n pre i a ++ occArgs n pre (i + 1) as
def occInner (n : Str) (pre : Path) (i : Nat) : Expr → List (Path × Expr)
  | .text _ _ => []
  | .cmd _ _ b _ => occList n pre (Step.arg i) 0 b
  | .nenv _ _ b _ => occList n pre (Step.arg i) 0 b
  | .math _ b _ => occList n pre (Step.arg i) 0 b
  | .group _ b _ => occList n pre (Step.arg i) 0 b
end

def occ (n : Str) (e : Expr) : List (Path × Expr) := occFrom n [] e
def occRoot (n : Str) (es : List Expr) : List (Path × Expr) := occFrom n [] (rootWrap es)

theorem closureP_of_isText {x : Expr} (h : x.isText = true) (pre : Path) : closureP pre x = [] := by
  cases x <;> simp_all [Expr.isText, closureP]

theorem occFrom_of_isText {x : Expr} (h : x.isText = true) (n : Str) (pre : Path) :
    occFrom n pre x = [] := by
  cases x <;> simp_all [Expr.isText, occFrom]

theorem occ_eq_filter_all (n : Str) :
    (∀ e, (∀ pre, occFrom n pre e = (closureP pre e).filter (fun px => px.2.named n)) ∧
      ∀ pre i, occInner n pre i e = (closureInnerP pre i e).filter (fun px => px.2.named n)) ∧
    ∀ es, (∀ pre mk j,
        occList n pre mk j es = (closureListP pre mk j es).filter (fun px => px.2.named n)) ∧
      ∀ pre i, occArgs n pre i es = (closureArgsP pre i es).filter (fun px => px.2.named n) := by
  apply Expr.induct
  · intro s p; exact ⟨fun _ => rfl, fun _ _ => rfl⟩
  · intro _ a b _ ha hb
    exact ⟨fun pre => by simp [occFrom, closureP, ha.2, hb.1], fun pre i => hb.1 pre _ 0⟩
  · intro _ a b _ ha hb
    exact ⟨fun pre => by simp [occFrom, closureP, ha.2, hb.1], fun pre i => hb.1 pre _ 0⟩
  · intro _ b _ hb
    exact ⟨fun pre => by simp [occFrom, closureP, hb.1], fun pre i => hb.1 pre _ 0⟩
  · intro _ b _ hb
    exact ⟨fun pre => by simp [occFrom, closureP, hb.1], fun pre i => hb.1 pre _ 0⟩
  · exact ⟨fun _ _ _ => rfl, fun _ _ => rfl⟩
  · intro e es he hes
    constructor
    · intro pre mk j
      rw [occList, closureListP, List.filter_append, hes.1, he.1]
      congr 1
      by_cases hb : e.isBlankText = true
      · have ht := isText_of_isBlankText hb
        simp [hb, Expr.named, ht, closureP_of_isText ht]
      · by_cases hn : e.named n = true <;> simp [hb, hn]
    · intro pre i
      rw [occArgs, closureArgsP, List.filter_append, hes.2, he.2]

theorem occFrom_eq_filter (n : Str) (e : Expr) (pre : Path) :
    occFrom n pre e = (closureP pre e).filter (fun px => px.2.named n) :=
  ((occ_eq_filter_all n).1 e).1 pre

theorem occList_eq_filter (n : Str) : ∀ (es : List Expr) (pre : Path) (mk : Nat → Step) (j : Nat),
    occList n pre mk j es = (closureListP pre mk j es).filter (fun px => px.2.named n) :=
  fun es => ((occ_eq_filter_all n).2 es).1

theorem occArgs_eq_filter (n : Str) : ∀ (as : List Expr) (pre : Path) (i : Nat),
    occArgs n pre i as = (closureArgsP pre i as).filter (fun px => px.2.named n) :=
  fun as => ((occ_eq_filter_all n).2 as).2

theorem occInner_eq_filter (n : Str) : ∀ (a : Expr) (pre : Path) (i : Nat),
    occInner n pre i a = (closureInnerP pre i a).filter (fun px => px.2.named n) :=
  fun a => ((occ_eq_filter_all n).1 a).2

theorem occ_eq_filter (n : Str) (e : Expr) :
    occ n e = (closureP [] e).filter (fun px => px.2.named n) := occFrom_eq_filter n e []

theorem closureListP_eq (pre : Path) (mk : Nat → Step) (j0 : Nat) (l : List Expr) :
    closureListP pre mk j0 l = ((idxP mk j0 l).filter (fun sx => !sx.2.isBlankText)).flatMap
      (fun sx => (pre ++ [sx.1], sx.2) :: closureP (pre ++ [sx.1]) sx.2) := by
  induction l generalizing j0 with
  | nil => simp [closureListP, idxP]
  | cons y ys ih =>
    by_cases hy : y.isBlankText = true <;> simp [closureListP, idxP, ih, hy]

theorem closureInnerP_eq (pre : Path) (i : Nat) (a : Expr) :
    closureInnerP pre i a = closureListP pre (Step.arg i) 0 a.body := by
  cases a <;> simp [closureInnerP, Expr.body, closureListP]

theorem closureArgsP_eq (pre : Path) (i0 : Nat) (as : List Expr) :
    closureArgsP pre i0 as = ((allArgsP i0 as).filter (fun sx => !sx.2.isBlankText)).flatMap
      (fun sx => (pre ++ [sx.1], sx.2) :: closureP (pre ++ [sx.1]) sx.2) := by
  induction as generalizing i0 with
  | nil => simp [closureArgsP, allArgsP]
  | cons b bs ih => simp [closureArgsP, allArgsP, ih, closureInnerP_eq, closureListP_eq]

theorem closureP_eq (pre : Path) (e : Expr) :
    closureP pre e = (contentsP e).flatMap
      (fun sx => (pre ++ [sx.1], sx.2) :: closureP (pre ++ [sx.1]) sx.2) := by
  cases e <;>
    simp [closureP, allP, Expr.args, Expr.body, closureArgsP_eq, closureListP_eq, allArgsP,
      contentsP, idxP]

theorem descP_perm_closureP (pre : Path) (e : Expr) : (descP pre e).Perm (closureP pre e) := by
  induction e using Expr.stepInd generalizing pre with
  | h e ih =>
    rw [descP_eq, closureP_eq]
    exact perm_layer (fun sx => (pre ++ [sx.1], sx.2)) _ _ (contentsP e)
      (fun sx hsx => ih _ _ (mem_contentsP.1 hsx).1 _)

theorem closureP_prefix (pre : Path) (e : Expr) :
    closureP pre e = (closureP [] e).map (fun px => (pre ++ px.1, px.2)) := by
  induction e using Expr.stepInd generalizing pre with
  | h e ih =>
    rw [closureP_eq pre, closureP_eq []]
    simp only [List.map_flatMap, List.nil_append, List.map_cons]
    refine flatMap_congr' (fun sx hsx => ?_)
    have hs := (mem_contentsP.1 hsx).1
    rw [ih _ _ hs (pre ++ [sx.1]), ih _ _ hs [sx.1]]
    simp [List.map_map, Function.comp_def]

theorem closureP_nil_eq (e : Expr) :
    closureP [] e = (contentsP e).flatMap
      (fun sx => ([sx.1], sx.2) :: (closureP [] sx.2).map (fun px => (sx.1 :: px.1, px.2))) := by
  rw [closureP_eq []]
  refine flatMap_congr' (fun sx _ => ?_)
  rw [closureP_prefix ([] ++ [sx.1])]
  simp

theorem getAt_cons (e : Expr) (st : Step) (p : Path) :
    getAt e (st :: p) = (stepGet e st).bind (fun y => getAt y p) := by
  simp only [getAt]
  cases stepGet e st <;> rfl

theorem getAt_append (e : Expr) (p q : Path) :
    getAt e (p ++ q) = (getAt e p).bind (fun y => getAt y q) := by
  induction p generalizing e with
  | nil => simp [getAt]
  | cons st p ih =>
    simp only [List.cons_append, getAt_cons]
    cases stepGet e st with
    | none => rfl
    | some y => simpa using ih y

theorem getAt_cons_some {e y : Expr} {st : Step} {p : Path} :
    getAt e (st :: p) = some y ↔ ∃ x, stepGet e st = some x ∧ getAt x p = some y := by
  rw [getAt_cons, Option.bind_eq_some_iff]

theorem getAt_singleton (e : Expr) (st : Step) : getAt e [st] = stepGet e st := by
  rw [getAt_cons]; cases stepGet e st <;> rfl

theorem stepGet_of_isText {x : Expr} (h : x.isText = true) (st : Step) : stepGet x st = none := by
  cases x <;> simp_all [Expr.isText]
  cases st <;> simp [stepGet, Expr.args, Expr.body]

theorem not_isText_of_getAt {y x : Expr} {q : Path} (hq : q ≠ []) (h : getAt y q = some x) :
    y.isText = false := by
  cases q with
  | nil => exact absurd rfl hq
  | cons st q =>
    cases hy : y.isText with
    | false => rfl
    | true => simp [getAt_cons, stepGet_of_isText hy] at h

theorem mem_closureP_iff {e : Expr} {p : Path} {x : Expr} :
    (p, x) ∈ closureP [] e ↔ p ≠ [] ∧ getAt e p = some x ∧ x.isBlankText = false := by
  induction e using Expr.stepInd generalizing p x with
  | h e ih =>
    rw [closureP_nil_eq, List.mem_flatMap]
    constructor
    · rintro ⟨⟨st, y⟩, hm, hx⟩
      obtain ⟨hs, hb⟩ := mem_contentsP.1 hm
      rcases List.mem_cons.1 hx with hx | hx
      · injection hx with h1 h2
        subst h1 h2
        exact ⟨by simp, by simp [hs, getAt], hb⟩
      · obtain ⟨⟨q, x'⟩, hq, heq⟩ := List.mem_map.1 hx
        injection heq with h1 h2
        subst h1 h2
        obtain ⟨_, hg, hxb⟩ := (ih st y hs).1 hq
        exact ⟨by simp, by simp [getAt_cons, hs, hg], hxb⟩
    · rintro ⟨hp, hg, hb⟩
      cases p with
      | nil => exact absurd rfl hp
      | cons st q =>
        obtain ⟨y, hs, hg⟩ := getAt_cons_some.1 hg
        by_cases hq : q = []
        · subst hq
          cases hg
          exact ⟨(st, x), mem_contentsP.2 ⟨hs, hb⟩, by simp⟩
        · -- the path goes on below `y`, so `y` is not text
          have hyb := isBlankText_of_not_isText (not_isText_of_getAt hq hg)
          refine ⟨(st, y), mem_contentsP.2 ⟨hs, hyb⟩, ?_⟩
          refine List.mem_cons_of_mem _ (List.mem_map.2 ⟨(q, x), ?_, rfl⟩)
          exact (ih st y hs).2 ⟨hq, hg, hb⟩

theorem mem_descP_iff {e : Expr} {p : Path} {x : Expr} :
    (p, x) ∈ descP [] e ↔ p ≠ [] ∧ getAt e p = some x ∧ x.isBlankText = false := by
  rw [(descP_perm_closureP [] e).mem_iff, mem_closureP_iff]

theorem closureP_nodup (e : Expr) : ((closureP [] e).map Prod.fst).Nodup := by
  induction e using Expr.stepInd with
  | h e ih =>
    -- the paths contributed by a child `(st, y)` all start with `st`: within one child they
    -- are distinct by induction, and the steps of different children differ (`contentsP_nodup`)
    rw [closureP_nil_eq, List.map_flatMap, List.Nodup, List.pairwise_flatMap]
    constructor
    · rintro ⟨st, y⟩ hm
      have hs := (mem_contentsP.1 hm).1
      simp only [List.map_cons, List.map_map]
      rw [← List.Nodup, List.nodup_cons]
      constructor
      · intro h
        obtain ⟨⟨q, x⟩, hq, heq⟩ := List.mem_map.1 h
        have hq' := (mem_closureP_iff.1 hq).1
        simp only [Function.comp_apply, List.cons.injEq, true_and] at heq
        exact hq' heq
      · have := ih st y hs
        have h2 : (List.map (Prod.fst ∘ fun px : Path × Expr => (st :: px.1, px.2)) (closureP [] y))
            = ((closureP [] y).map Prod.fst).map (fun q => st :: q) := by
          simp [List.map_map, Function.comp_def]
        rw [h2]
        exact (List.pairwise_map.2 (List.Pairwise.imp (fun hne h => hne (by injection h)) this))
    · have hnd := contentsP_nodup e
      rw [List.Nodup, List.pairwise_map] at hnd
      refine List.Pairwise.imp ?_ hnd
      rintro ⟨st, y⟩ ⟨st', y'⟩ hne p hp q hq
      have hhead : ∀ {s : Step} {z : Expr} {r : Path},
          r ∈ List.map Prod.fst (([s], z) :: (closureP [] z).map (fun px => (s :: px.1, px.2))) →
          r.head? = some s := by
        intro s z r hr
        simp only [List.map_cons, List.map_map, List.mem_cons, List.mem_map, Function.comp_apply] at hr
        rcases hr with rfl | ⟨a, _, rfl⟩ <;> rfl
      intro hpq
      have h1 := hhead hp
      have h2 := hhead hq
      rw [hpq, h2] at h1
      exact hne (by injection h1 with h1; exact h1.symm)

theorem descP_nodup (e : Expr) : ((descP [] e).map Prod.fst).Nodup :=
  ((descP_perm_closureP [] e).map Prod.fst).nodup_iff.2 (closureP_nodup e)

theorem occ_nodup (n : Str) (e : Expr) : ((occ n e).map Prod.fst).Nodup := by
  rw [occ_eq_filter]
  exact List.Nodup.sublist (List.Sublist.map _ List.filter_sublist) (closureP_nodup e)

theorem closureP_map_snd {e : Expr} (h : e.flatArgs = true) (pre : Path) :
    (closureP pre e).map Prod.snd = closure e := by
  induction e using Expr.stepInd generalizing pre with
  | h e ih =>
    rw [closureP_eq, closure_eq, ← contentsP_map_snd (fun a ha => (flatArgs_args h ha).1),
      List.map_flatMap, List.flatMap_map]
    refine flatMap_congr' (fun sx hsx => ?_)
    have hs := (mem_contentsP.1 hsx).1
    simp [ih _ _ hs (flatArgs_step h hs)]

theorem descP_map_snd {e : Expr} (h : e.flatArgs = true) (pre : Path) :
    (descP pre e).map Prod.snd = descOf e := by
  induction e using Expr.stepInd generalizing pre with
  | h e ih =>
    rw [descP_eq, descOf_eq, ← contentsP_map_snd (fun a ha => (flatArgs_args h ha).1),
      List.map_append, List.map_flatMap, List.flatMap_map]
    congr 1
    · simp [tagP, List.map_map, Function.comp_def]
    · refine flatMap_congr' (fun sx hsx => ?_)
      have hs := (mem_contentsP.1 hsx).1
      exact ih _ _ hs (flatArgs_step h hs) _

def ancestorPath (k : Nat) (p : Path) : Path := Nat.repeat parentPath k p

theorem ancestorPath_eq_take (k : Nat) (p : Path) : ancestorPath k p = p.take (p.length - k) := by
  induction k with
  | zero => simp [ancestorPath, Nat.repeat]
  | succ k ih =>
    have : ancestorPath (k + 1) p = parentPath (ancestorPath k p) := rfl
    rw [this, ih, parentPath, List.dropLast_eq_take, List.take_take, List.length_take,
      Nat.min_eq_left (Nat.sub_le _ _), Nat.min_eq_left (Nat.sub_le _ _), Nat.sub_sub]

theorem ancestorPath_length (p : Path) : ancestorPath p.length p = [] := by
  simp [ancestorPath_eq_take]

theorem getAt_take {e x : Expr} {p : Path} (h : getAt e p = some x) (k : Nat) :
    ∃ y, getAt e (p.take k) = some y ∧ getAt y (p.drop k) = some x := by
  rw [← List.take_append_drop k p, getAt_append, Option.bind_eq_some_iff] at h
  exact h

theorem parent_of_mem_descP {e x : Expr} {q : Path} {st : Step} (h : (q ++ [st], x) ∈ descP [] e) :
    ∃ y, getAt e q = some y ∧ (st, x) ∈ contentsP y := by
  obtain ⟨_, hg, hb⟩ := mem_descP_iff.1 h
  rw [getAt_append, Option.bind_eq_some_iff] at hg
  obtain ⟨y, hy, hg⟩ := hg
  rw [getAt_singleton] at hg
  exact ⟨y, hy, mem_contentsP.2 ⟨hg, hb⟩⟩

end TexSoup
