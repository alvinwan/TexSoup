import TexSoupProofs.EditLemmasMain
/-!
# Edit lemmas: search (`find_all` by plain name) after a rename

At the end, for all three node edits: nodes off the edited path are as they were (`node_edit_paths`).
-/
namespace TexSoup.Edit

def Hole1 (m m' L L' : List Expr) : Prop := ∃ U W, L = U ++ (m ++ W) ∧ L' = U ++ (m' ++ W)

theorem Hole1.append_left {m m' L L' : List Expr} (A : List Expr) (h : Hole1 m m' L L') :
    Hole1 m m' (A ++ L) (A ++ L') := by
  obtain ⟨U, W, rfl, rfl⟩ := h
  exact ⟨A ++ U, W, by simp, by simp⟩

theorem Hole1.append_right {m m' L L' : List Expr} (A : List Expr) (h : Hole1 m m' L L') :
    Hole1 m m' (L ++ A) (L' ++ A) := by
  obtain ⟨U, W, rfl, rfl⟩ := h
  exact ⟨U, W ++ A, by simp, by simp⟩

theorem Hole1.trans_inner {m m' n n' L L' : List Expr} (h : Hole1 n n' L L')
    (hn : Hole1 m m' n n') : Hole1 m m' L L' := by
  obtain ⟨U, W, rfl, rfl⟩ := h
  obtain ⟨U', W', rfl, rfl⟩ := hn
  exact ⟨U ++ U', W' ++ W, by simp, by simp⟩

theorem dropBlank_append (a b : List Expr) : dropBlank (a ++ b) = dropBlank a ++ dropBlank b :=
  TexSoup.dropBlank_append a b

theorem Hole1.dropBlank {x x' : Expr} {L L' : List Expr} (hx : x.isText = false)
    (hx' : x'.isText = false) (h : Hole1 [x] [x'] L L') :
    Hole1 [x] [x'] (dropBlank L) (dropBlank L') := by
  obtain ⟨U, W, rfl, rfl⟩ := h
  refine ⟨TexSoup.dropBlank U, TexSoup.dropBlank W, ?_, ?_⟩
  · simp [TexSoup.dropBlank, isBlankText_of_not_isText hx]
  · simp [TexSoup.dropBlank, isBlankText_of_not_isText hx']

theorem hole_set {l : List Expr} {j : Nat} {x : Expr} (x' : Expr) (h : l[j]? = some x) :
    Hole1 [x] [x'] l (l.set j x') := by
  obtain ⟨hj, rfl⟩ := List.getElem?_eq_some_iff.mp h
  refine ⟨l.take j, l.drop (j + 1), ?_, ?_⟩
  · rw [List.singleton_append, ← List.drop_eq_getElem_cons hj, List.take_append_drop]
  · rw [List.set_eq_take_append_cons_drop, if_pos hj]; rfl

theorem hole_flatMap (f : Expr → List Expr) {l : List Expr} {j : Nat} {x : Expr} (x' : Expr)
    (h : l[j]? = some x) : Hole1 (f x) (f x') (l.flatMap f) ((l.set j x').flatMap f) := by
  obtain ⟨U, W, h1, h2⟩ := hole_set x' h
  exact ⟨U.flatMap f, W.flatMap f, by rw [h1]; simp, by rw [h2]; simp⟩

theorem descOf_args_body (e : Expr) :
    descOf e = (e.args.flatMap contentsOf ++ dropBlank e.body) ++
      (e.args.flatMap descInner ++ e.body.flatMap descOf) := by
  rw [descOf_eq_inner, contentsOf_eq, descInner_args_body]

theorem isText_false_of_hasArgs {e : Expr} (h : e.hasArgs = true) : e.isText = false := by
  cases e with
  | text _ _ => cases h
  | _ => rfl

/-- The two places where a child shows in the descendants of its parent: once itself (in the
contents), once through its own descendants. -/
def Hole2 (x x' : Expr) (L L' : List Expr) : Prop :=
  ∃ U V W, L = U ++ x :: (V ++ (descOf x ++ W)) ∧ L' = U ++ x' :: (V ++ (descOf x' ++ W))

theorem Hole2.combine {x x' : Expr} {C C' D D' : List Expr} (hc : Hole1 [x] [x'] C C')
    (hd : Hole1 (descOf x) (descOf x') D D') : Hole2 x x' (C ++ D) (C' ++ D') := by
  obtain ⟨U, W, rfl, rfl⟩ := hc
  obtain ⟨U', W', rfl, rfl⟩ := hd
  exact ⟨U, W ++ U', W', by simp, by simp⟩

theorem step_desc {e x x' : Expr} {st : Step} {l : List Expr} (hl : holderList e st = some l)
    (hx : l[st.idx]? = some x) (hxt : x.isText = false) (hxt' : x'.isText = false) :
    Hole2 x x' (descOf e) (descOf (setHolder e st (l.set st.idx x'))) := by
  have inBody : ∀ as : List Expr,
      Hole1 [x] [x'] (as.flatMap contentsOf ++ dropBlank l)
        (as.flatMap contentsOf ++ dropBlank (l.set st.idx x')) ∧
      Hole1 (descOf x) (descOf x') (as.flatMap descInner ++ l.flatMap descOf)
        (as.flatMap descInner ++ (l.set st.idx x').flatMap descOf) :=
    fun as => ⟨((hole_set x' hx).dropBlank hxt hxt').append_left _,
      (hole_flatMap descOf x' hx).append_left _⟩
  rw [descOf_args_body, descOf_args_body]
  rcases holderList_inv hl with ⟨j, rfl, hb, rfl⟩ | ⟨i, j, a, rfl, ha, hb, rfl⟩
  · simp only [setHolder, args_setBody, body_setBody _ _ hb]
    exact Hole2.combine (inBody _).1 (inBody _).2
  · simp only [setHolder, ha, args_setArgs _ _ (hasArgs_of_args_get ha), body_setArgs]
    apply Hole2.combine
    · apply ((hole_flatMap contentsOf _ ha).trans_inner _).append_right
      rw [contentsOf_eq, contentsOf_eq, args_setBody, body_setBody _ _ hb]
      exact (inBody _).1
    · apply ((hole_flatMap descInner _ ha).trans_inner _).append_right
      rw [descInner_args_body, descInner_args_body, args_setBody, body_setBody _ _ hb]
      exact (inBody _).2

/-- A node without its arguments and contents: kind, name and position. For a plain name
(no `{`, no `[`) `find_all` only looks at this part of a node. -/
def _root_.TexSoup.Expr.head : Expr → Expr
  | .text s p => .text s p
  | .cmd n _ _ p => .cmd n [] [] p
  | .nenv n _ _ p => .nenv n [] [] p
  | .math k _ p => .math k [] p
  | .group k _ p => .group k [] p

/-- A search name that is matched against names, not against source text. -/
def plainName (s : Str) : Bool := !(s.contains 123 || s.contains 91)

@[simp] theorem isText_head (e : Expr) : e.head.isText = e.isText := by cases e <;> rfl

theorem head_setHolder (e : Expr) (st : Step) (l' : List Expr) :
    (setHolder e st l').head = e.head := by
  cases st with
  | body j => cases e <;> rfl
  | arg i j =>
    simp only [setHolder]
    split
    · cases e <;> rfl
    · rfl

theorem desc_hole {q : Path} {f : Expr → Option Expr} {y y' : Expr} (hf : f y = some y')
    (hd : descOf y' = descOf y) (ht : y.isText = false) (ht' : y'.isText = false) :
    ∀ {e e' : Expr}, q ≠ [] → getAt e q = some y → updAt e q f = some e' →
    (∃ l1 l2, (descOf e).map Expr.head = l1 ++ y.head :: l2 ∧
      (descOf e').map Expr.head = l1 ++ y'.head :: l2) ∧ e'.head = e.head := by
  induction q with
  | nil => intro e e' h; exact absurd rfl h
  | cons st q ih =>
    intro e e' _ hg hu
    obtain ⟨l, x, x', hl, hlx, hx', rfl⟩ := updAt_cons_some.1 hu
    obtain ⟨x₁, hx₁, hg⟩ := getAt_cons_some.1 hg
    cases ((holderList_stepGet hl).trans hlx).symm.trans hx₁
    refine ⟨?_, head_setHolder _ _ _⟩
    cases q with
    | nil =>
      cases hg
      cases hf.symm.trans hx'
      obtain ⟨U, V, W, h1, h2⟩ := step_desc hl hlx ht ht'
      exact ⟨U.map Expr.head, (V ++ (descOf y ++ W)).map Expr.head, by rw [h1]; simp,
        by rw [h2, hd]; simp⟩
    | cons t q =>
      obtain ⟨⟨m1, m2, hm1, hm2⟩, hhead⟩ := ih (by simp) hg hx'
      have hxt := not_isText_of_getAt (List.cons_ne_nil t q) hg
      have hxt' : x'.isText = false := by rw [← isText_head, hhead, isText_head, hxt]
      obtain ⟨U, V, W, h1, h2⟩ := step_desc hl hlx hxt hxt'
      exact ⟨U.map Expr.head ++ x.head :: (V.map Expr.head ++ m1), m2 ++ W.map Expr.head,
        by rw [h1]; simp [hm1], by rw [h2]; simp [hm2, hhead]⟩

theorem plain_ne_begin {s t : Str} (hs : plainName s = true) : (s == strBegin ++ t) = false := by
  cases h : s == strBegin ++ t with
  | false => rfl
  | true =>
    rw [eq_of_beq h] at hs
    simp [plainName, strBegin] at hs

theorem plain_ne_end {s t : Str} (hs : plainName s = true) : (s == strEnd ++ t) = false := by
  cases h : s == strEnd ++ t with
  | false => rfl
  | true =>
    rw [eq_of_beq h] at hs
    simp [plainName, strEnd] at hs

/-- `find_all(name)` keeps this descendant. -/
def nameHit (s : Str) (e : Expr) : Bool := !e.isText && matchesQ (.name s) e

theorem nameHit_head {s : Str} (hs : plainName s = true) (e : Expr) :
    nameHit s e.head = nameHit s e := by
  have hc : ¬(123 ∈ s ∨ 91 ∈ s) := by simpa [plainName] using hs
  cases e with
  | text t p => rfl
  | nenv n a b p =>
    simp [nameHit, Expr.head, Expr.isText, matchesQ, Expr.isEnv, hc, Expr.name, Expr.beginStr,
      Expr.endStr, plain_ne_begin hs, List.append_assoc]
  | _ => simp [nameHit, Expr.head, Expr.isText, matchesQ, Expr.isEnv, hc, Expr.name, Expr.beginStr,
      Expr.endStr, Expr.args]

theorem findAllIn_map_head {s : Str} (hs : plainName s = true) (l : List Expr) :
    (findAllIn (.name s) l).map Expr.head = (l.map Expr.head).filter (nameHit s) := by
  rw [findAllIn, List.filter_map]
  exact congrArg _ (List.filter_congr fun x _ => (nameHit_head hs x).symm)

theorem nameHit_of_hasArgs {s : Str} (hs : plainName s = true) {e : Expr}
    (he : e.hasArgs = true) : nameHit s e = (e.name == s) := by
  have hc : (s.contains 123 || s.contains 91) = false := by simpa [plainName] using hs
  cases e with
  | cmd n a b p =>
    simp only [nameHit, Expr.isText, matchesQ, Expr.isEnv, hc, Expr.name, Bool.not_false,
      Bool.true_and, Bool.false_and, Bool.false_or, Bool.false_eq_true, if_false]
  | nenv n a b p =>
    simp only [nameHit, Expr.isText, matchesQ, Expr.isEnv, hc, Expr.name, Expr.beginStr,
      Expr.endStr, plain_ne_begin hs, plain_ne_end hs, List.append_assoc, Bool.not_false,
      Bool.true_and, Bool.or_false, Bool.false_eq_true, if_false]
    cases h : n == s with
    | true => rw [eq_of_beq h]; simp
    | false =>
      rw [Bool.or_false]
      cases h' : s == n with
      | false => rfl
      | true => rw [eq_of_beq h'] at h; simp at h
  | _ => cases he

theorem renameE_facts {new : Str} {y y' : Expr} (h : renameE new y = some y') :
    y.hasArgs = true ∧ y'.hasArgs = true ∧ y'.name = new ∧ y'.args = y.args ∧ y'.body = y.body := by
  cases y with
  | cmd _ _ _ _ | nenv _ _ _ _ => cases h; exact ⟨rfl, rfl, rfl, rfl, rfl⟩
  | _ => cases h

theorem updAt_root_shape {es : List Expr} {p : Path} {f : Expr → Option Expr} {R : Expr}
    (hp : p ≠ []) (h : updAt (rootWrap es) p f = some R) : R = rootWrap R.body := by
  cases p with
  | nil => exact absurd rfl hp
  | cons st q =>
    obtain ⟨l, _, _, hl, _, _, rfl⟩ := updAt_cons_some.1 h
    cases st with
    | arg i j => cases hl
    | body j => rfl

theorem node_edit_paths {es : List Expr} {op : EditOp} {p r : Path} {f : Expr → Option Expr}
    (hop : applyEditE (rootWrap es) op = updAt (rootWrap es) p f)
    (h1 : ¬ p <+: r) (h2 : ¬ r <+: p) :
    getAtRoot (applyEdit es op) r = getAtRoot es r := by
  cases hR : applyEditE (rootWrap es) op with
  | none => simp [applyEdit, hR]
  | some R =>
    have hu := hop.symm.trans hR
    simp only [applyEdit, hR]
    unfold getAtRoot
    rw [← updAt_root_shape (fun h : p = [] => h1 (h ▸ r.nil_prefix)) hu]
    exact getAt_updAt_diverge hu h1 h2

end TexSoup.Edit
