import TexSoupModel.Tree
/-!
# Induction over expression trees

`Expr` is nested through `List Expr`; `Expr.induct` is its induction principle with one predicate
for expressions and one for lists of them, so that a pair of mutually dependent facts is one
application and not a mutual recursion for Lean to compile.
-/
namespace TexSoup

theorem Expr.induct {P : Expr → Prop} {Q : List Expr → Prop}
    (text : ∀ s p, P (.text s p))
    (cmd : ∀ n a b p, Q a → Q b → P (.cmd n a b p))
    (nenv : ∀ n a b p, Q a → Q b → P (.nenv n a b p))
    (math : ∀ k b p, Q b → P (.math k b p))
    (group : ∀ k b p, Q b → P (.group k b p))
    (nil : Q [])
    (cons : ∀ e es, P e → Q es → Q (e :: es)) : (∀ e, P e) ∧ (∀ es, Q es) :=
  have h : ∀ e, P e := fun e => @Expr.rec P Q text cmd nenv math group nil cons e
  ⟨h, fun es => List.rec nil (fun e es ih => cons e es (h e) ih) es⟩

@[simp] theorem serL_nil : serL [] = [] := by simp [serL]
@[simp] theorem serL_cons (e : Expr) (es : List Expr) : serL (e :: es) = ser e ++ serL es := by
  simp [serL]

theorem serL_append (a b : List Expr) : serL (a ++ b) = serL a ++ serL b := by
  induction a with
  | nil => simp [serL]
  | cons e es ih => simp [serL, ih]

end TexSoup
