import TexSoupProofs.EditLemmasOps
/-!
# Edit lemmas: the one-step splice theorems in the form used by C05/C14/C15
-/
namespace TexSoup.Edit

theorem frame_sub {α : Type} {s s' A Y Y' B C M M' D : List α} {k : Nat}
    (h : s = A ++ (Y ++ B)) (h' : s' = A ++ (Y' ++ B))
    (hY : Y = C ++ (M ++ D)) (hY' : Y' = C ++ (M' ++ D)) (hk : A.length + C.length = k) :
    s' = s.take k ++ (M' ++ s.drop (k + M.length)) := by
  apply frame_splice (A := A ++ C) (B := D ++ B)
  · rw [h, hY]; simp [List.append_assoc]
  · rw [h', hY']; simp [List.append_assoc]
  · simpa using hk

/-- Two holes filled with the same text (the two name spans of an environment). -/
theorem frame_splice2 {α : Type} {s s' A M E B M' : List α} {k e : Nat}
    (h : s = A ++ (M ++ (E ++ (M ++ B)))) (h' : s' = A ++ (M' ++ (E ++ (M' ++ B))))
    (hk : A.length = k) (he : E.length = e) :
    s' = s.take k ++ (M' ++ ((s.drop (k + M.length)).take e ++
      (M' ++ s.drop (k + M.length + e + M.length)))) := by
  subst hk he
  have h1 : s.take A.length = A := by rw [h]; exact List.take_left' rfl
  have h2 : s.drop (A.length + M.length) = E ++ (M ++ B) := by
    rw [h, ← List.append_assoc A M]; exact List.drop_left' (by simp)
  have h3 : s.drop (A.length + M.length + E.length + M.length) = B := by
    rw [h, ← List.append_assoc A M, ← List.append_assoc (A ++ M) E, ← List.append_assoc _ M B]
    exact List.drop_left' (by simp only [List.length_append])
  rw [h1, h2, h3, List.take_left' rfl, h']

theorem node_edit {es : List Expr} {op : EditOp} {p : Path} {f : Expr → Option Expr} {y y' : Expr}
    (hp : p ≠ []) (hy : getAtRoot es p = some y) (hf : f y = some y')
    (hop : applyEditE (rootWrap es) op = updAt (rootWrap es) p f) :
    ∃ A B, serL es = A ++ (ser y ++ B) ∧ offAtRoot es p = some A.length ∧
      applyEditE (rootWrap es) op = some (rootWrap (applyEdit es op)) ∧
      serL (applyEdit es op) = A ++ (ser y' ++ B) ∧ getAtRoot (applyEdit es op) p = some y' := by
  cases p with
  | nil => exact absurd rfl hp
  | cons st q =>
    obtain ⟨A, B, hser, hoff, hupd⟩ := updAtRoot_frame hy
    obtain ⟨es', hes', hser', hget'⟩ := hupd f y' hf
    have happ : applyEdit es op = es' := by simp [applyEdit, hop, hes', rootWrap_body]
    refine ⟨A, B, hser, hoff, ?_, ?_, ?_⟩
    · rw [happ, hop, hes']
    · rw [happ, hser']
    · rw [happ, hget']

theorem isEmpty_false_of_ne {p : Path} (hp : p ≠ []) : p.isEmpty = false := by
  cases p <;> simp_all

theorem applyEditE_rename {es : List Expr} {p : Path} (n : Str) (hp : p ≠ []) :
    applyEditE (rootWrap es) (.rename p n) = updAt (rootWrap es) p (renameE n) := by
  simp [applyEditE, isEmpty_false_of_ne hp]

theorem applyEditE_setArgs {es : List Expr} {p : Path} (a : List Expr) (hp : p ≠ []) :
    applyEditE (rootWrap es) (.setArgs p a) = updAt (rootWrap es) p (setArgsE a) := by
  simp [applyEditE, isEmpty_false_of_ne hp]

theorem applyEditE_setString {es : List Expr} {p : Path} (s : Str) (hp : p ≠ []) :
    applyEditE (rootWrap es) (.setString p s) = updAt (rootWrap es) p (setStringE s) := by
  simp [applyEditE, isEmpty_false_of_ne hp]

theorem setArgsE_eq {y : Expr} (a : List Expr) (h : y.hasArgs = true) :
    setArgsE a y = some (y.setArgs a) := by
  cases y <;> simp_all [Expr.hasArgs, setArgsE, Expr.setArgs]

theorem setArgsE_none {y : Expr} (a : List Expr) (h : y.hasArgs = false) :
    setArgsE a y = none := by
  cases y <;> simp_all [Expr.hasArgs, setArgsE]

theorem renameE_none {y : Expr} (n : Str) (h : y.hasArgs = false) : renameE n y = none := by
  cases y <;> simp_all [Expr.hasArgs, renameE]

theorem node_edit_splice {es : List Expr} {op : EditOp} {p : Path} {f : Expr → Option Expr}
    {y y' : Expr} {C M M' D : Str} (hp : p ≠ []) (hy : getAtRoot es p = some y)
    (hf : f y = some y') (hop : applyEditE (rootWrap es) op = updAt (rootWrap es) p f)
    (hY : ser y = C ++ (M ++ D)) (hY' : ser y' = C ++ (M' ++ D)) :
    ∃ k, offAtRoot es p = some k ∧ getAtRoot (applyEdit es op) p = some y' ∧
      serL (applyEdit es op) = splice (serL es) (k + C.length) M.length M' := by
  obtain ⟨A, B, hser, hoff, _, hser', hget⟩ := node_edit hp hy hf hop
  exact ⟨A.length, hoff, hget, frame_sub hser hser' hY hY' rfl⟩

theorem parentOK_split {es : List Expr} {p : Path} (h : parentOK es p = true) :
    ∃ q st e, p = q ++ [st] ∧ splitLast p = some (q, st) ∧ getAtRoot es q = some e ∧
      holderOK e st = true := by
  simp only [parentOK] at h
  split at h
  · rename_i q st hsl
    split at h
    · rename_i e he
      exact ⟨q, st, e, splitLast_eq hsl, hsl, he, h⟩
    · cases h
  · cases h

theorem siteOf_delete {es : List Expr} {q : Path} {st : Step} {x : Expr}
    (hx : getAtRoot es (q ++ [st]) = some x) (hok : parentOK es (q ++ [st]) = true) :
    siteOf es (.delete (q ++ [st])) = some ⟨q, st, 1, []⟩ := by
  simp [siteOf, splitLast_snoc, hok, hx]

theorem siteOf_replace {es : List Expr} {q : Path} {st : Step} {x : Expr} (ns : List Expr)
    (hx : getAtRoot es (q ++ [st]) = some x) (hok : parentOK es (q ++ [st]) = true) :
    siteOf es (.replace (q ++ [st]) ns) = some ⟨q, st, 1, ns⟩ := by
  simp [siteOf, splitLast_snoc, hok, hx]

theorem siteOf_insert {es : List Expr} {c : Path} {y : Expr} (i : Nat) (ns : List Expr)
    (hc : getAtRoot es c = some y) (hsc : y.supportsContents = true) :
    siteOf es (.insert c i ns) = some ⟨c, .body (min i y.body.length), 0, ns⟩ := by
  simp [siteOf, hc, hsc]

theorem siteOf_append {es : List Expr} {c : Path} {y : Expr} (ns : List Expr)
    (hc : getAtRoot es c = some y) (hsc : y.supportsContents = true) :
    siteOf es (.append c ns) = some ⟨c, .body y.body.length, 0, ns⟩ := by
  simp [siteOf, hc, hsc]

theorem siteOf_setString {es : List Expr} {p : Path} {y : Expr} {st : Step} {d : Nat} (s : Str)
    (hp : p ≠ []) (hy : getAtRoot es p = some y) (hs : setStringSite y = some (st, d)) :
    siteOf es (.setString p s) = some ⟨p, st, d, [.text s (-1)]⟩ := by
  cases p with
  | nil => exact absurd rfl hp
  | cons t q => simp [siteOf, hy, hs]

theorem remove_core {es : List Expr} {q : Path} {st : Step} {x : Expr} {op : EditOp}
    (ns : List Expr) (hx : getAtRoot es (q ++ [st]) = some x)
    (hop : siteOf es op = some ⟨q, st, 1, ns⟩) :
    ∃ k, offAtRoot es (q ++ [st]) = some k ∧
      serL (applyEdit es op) = (serL es).take k ++ (serL ns ++ (serL es).drop (k + (ser x).length)) := by
  obtain ⟨e, l, k, es', he, hl, _, hoff, _, happ, hser⟩ := site_splice hop
  simp only at he hl hoff hser
  have hxs : l[st.idx]? = some x := by
    rw [← holderList_stepGet hl, ← getAtRoot_snoc he]; exact hx
  rw [take_one_drop hxs, serL_singleton] at hser
  exact ⟨k, by rw [offAtRoot_snoc hx, hoff], by rw [happ, hser]⟩

theorem siteOff_ins {es : List Expr} {c : Path} {y : Expr} (i : Nat)
    (hc : getAtRoot es c = some y) (hb : y.hasBody = true) :
    siteOffRoot es c (.body i) = insOffRoot es c i := by
  cases c with
  | nil => rfl
  | cons t q =>
    simp [siteOffRoot, insOffRoot, hc, offStep, hOff, holderList, hb, insOff, Step.idx]

theorem insert_core {es : List Expr} {c : Path} {y : Expr} {op : EditOp} (i : Nat) (ns : List Expr)
    (hc : getAtRoot es c = some y) (hsc : y.supportsContents = true)
    (hop : siteOf es op = some ⟨c, .body i, 0, ns⟩) :
    ∃ k, insOffRoot es c i = some k ∧
      serL (applyEdit es op) = (serL es).take k ++ (serL ns ++ (serL es).drop k) := by
  obtain ⟨e', l, k, es', he', hl, hd, hoff, _, happ, hser⟩ := site_splice hop
  simp only at he' hl hd hoff hser
  refine ⟨k, ?_, ?_⟩
  · rw [← siteOff_ins i hc (hasBody_of_supportsContents hsc), hoff]
  · rw [happ, hser]; simp

/-- The span (relative offset, length) that `node.string = s` replaces: the contents of the
single argument of a command, or the own contents of an environment. -/
def stringSpan : Expr → Option (Nat × Nat)
  | .cmd n [a] _ _ =>
    if a.hasBody then some (1 + n.length + (bodyPre a).length, (serL a.body).length) else none
  | .cmd _ _ _ _ => none
  | .text _ _ => none
  | e => match contentsOf e with
    | [.text _ _] => some ((bodyPre e).length, (serL e.body).length)
    | _ => none

theorem stringSpan_site {y : Expr} {o len : Nat} (h : stringSpan y = some (o, len)) :
    ∃ st l, setStringSite y = some (st, l.length) ∧ holderList y st = some l ∧ st.idx = 0 ∧
      offStep y st = some o ∧ (serL l).length = len := by
  cases y with
  | text t p => cases h
  | cmd n a b p =>
    match a with
    | [] => cases h
    | _ :: _ :: _ => cases h
    | [a] =>
      simp only [stringSpan] at h
      split at h
      · rename_i hb
        cases h
        refine ⟨.arg 0 0, a.body, by simp [setStringSite, hb],
          by simp [holderList, Expr.args, hb], rfl, ?_, rfl⟩
        simp [offStep, hOff, holderList, Expr.args, hb, argsPre, Step.idx, Nat.add_comm]
      · cases h
  | nenv _ _ b _ | math _ b _ | group _ b _ =>
    simp only [stringSpan] at h
    simp only [setStringSite]
    generalize contentsOf _ = c at h
    rcases c with _ | ⟨x, _ | ⟨z, r⟩⟩
    · cases h
    · cases x with
      | text _ _ =>
        cases h
        exact ⟨.body 0, b, rfl, rfl, rfl, by simp [offStep, hOff, holderList, Expr.hasBody, Step.idx],
          rfl⟩
      | _ => cases h
    · cases x <;> cases h

end TexSoup.Edit
