import TexSoupProofs.EditLemmasMain
/-!
# Edit lemmas: histories (reference string model, well-formedness invariant)
-/
namespace TexSoup.Edit

/-- A resolved edit `(offset, length, new text)` applied to the reference string. -/
def refApply (s : Str) (r : Nat × Nat × Str) : Str := splice s r.1 r.2.1 r.2.2

def resolveSite (es : List Expr) (op : EditOp) : Option (Nat × Nat × Str) :=
  match siteOf es op with
  | some σ => match getAtRoot es σ.q with
    | some e => match holderList e σ.st, siteOffRoot es σ.q σ.st with
      | some l, some k => some (k, (serL ((l.drop σ.st.idx).take σ.d)).length, serL σ.ns)
      | _, _ => none
    | none => none
  | none => none

/-- Offset, length and new text of an edit, computed from the current tree; `none` when the
edit fails (or, for `setString` on a command whose single argument cannot hold contents,
changes nothing). For the renaming of an environment the span runs from the first name to
the second one (C14 `rename_splice_env` gives the two name spans separately). -/
def resolve (es : List Expr) : EditOp → Option (Nat × Nat × Str)
  | .delete p => resolveSite es (.delete p)
  | .replace p ns => resolveSite es (.replace p ns)
  | .insert c i ns => resolveSite es (.insert c i ns)
  | .append c ns => resolveSite es (.append c ns)
  | .setString p s => resolveSite es (.setString p s)
  | .rename p n =>
    if p.isEmpty then none else
    match getAtRoot es p, offAtRoot es p with
    | some (.cmd old _ _ _), some k => some (k + 1, old.length, n)
    | some (.nenv old a b _), some k =>
      some (k + 7, old.length + ((1 + (serL a).length + (serL b).length + 5) + old.length),
        n ++ ((125 :: (serL a ++ (serL b ++ strEnd))) ++ n))
    | _, _ => none
  | .setArgs p as =>
    if p.isEmpty then none else
    match getAtRoot es p, offAtRoot es p with
    | some y, some k =>
      if y.hasArgs then some (k + (argsPre y).length, (serL y.args).length, serL as) else none
    | _, _ => none

def refStep (es : List Expr) (s : Str) (op : EditOp) : Str :=
  match resolve es op with
  | some r => refApply s r
  | none => s

/-- The reference model run along a history: the string is spliced, the tree is only used
to resolve targets into offsets. -/
def refRun : List Expr → Str → List EditOp → Str
  | _, s, [] => s
  | es, s, op :: ops => refRun (applyEdit es op) (refStep es s op) ops

theorem resolveSite_step {es : List Expr} {op : EditOp}
    (hop : ∀ p n, op ≠ .rename p n) (hop' : ∀ p a, op ≠ .setArgs p a) :
    serL (applyEdit es op) = match resolveSite es op with
      | some r => refApply (serL es) r
      | none => serL es := by
  cases h : siteOf es op with
  | none => simp [resolveSite, h, siteOf_none h hop hop']
  | some σ =>
    obtain ⟨e, l, k, es', he, hl, hd, hoff, _, happ, hser⟩ := site_splice h
    simp [resolveSite, h, he, hl, hoff, happ, hser, refApply, splice]

theorem applyEdit_of_none {es : List Expr} {op : EditOp}
    (h : applyEditE (rootWrap es) op = none) : applyEdit es op = es := by
  simp [applyEdit, h]

/-- What the elements of an `args` list look like: a group, or a bare command (no
arguments, no contents), as `TexArgs` and the reader build them. -/
def argShape : Expr → Bool
  | .group _ _ _ => true
  | .cmd _ [] [] _ => true
  | _ => false

mutual
/-- Every `args` list, at any depth, consists of groups and bare commands. -/
def TreeOK : Expr → Bool
  | .text _ _ => true
  | .cmd _ a b _ => argsOK a && listOK b
  | .nenv _ a b _ => argsOK a && listOK b
  | .math _ b _ => listOK b
  | .group _ b _ => listOK b
def listOK : List Expr → Bool
  | [] => true
  | e :: es => TreeOK e && listOK es
def argsOK : List Expr → Bool
  | [] => true
  | a :: as => argShape a && (TreeOK a && argsOK as)
end

theorem listOK_iff (l : List Expr) : listOK l = true ↔ ∀ x ∈ l, TreeOK x = true := by
  induction l with
  | nil => simp [listOK]
  | cons e es ih => simp [listOK, ih]

theorem argsOK_iff (l : List Expr) :
    argsOK l = true ↔ ∀ a ∈ l, argShape a = true ∧ TreeOK a = true := by
  induction l with
  | nil => simp [argsOK]
  | cons e es ih => simp [argsOK, ih, and_assoc]

theorem TreeOK_eq (e : Expr) : TreeOK e = (argsOK e.args && listOK e.body) := by
  cases e <;> simp [TreeOK, Expr.args, Expr.body, argsOK, listOK]

theorem TreeOK_setBody {e : Expr} {b : List Expr} (he : TreeOK e = true) (hb : listOK b = true) :
    TreeOK (e.setBody b) = true := by
  cases e <;> simp_all [TreeOK, Expr.setBody]

theorem TreeOK_setArgs {e : Expr} {a : List Expr} (he : TreeOK e = true) (ha : argsOK a = true) :
    TreeOK (e.setArgs a) = true := by
  cases e <;> simp_all [TreeOK, Expr.setArgs]

theorem listOK_spliceList {l ns : List Expr} (j d : Nat) (hl : listOK l = true)
    (hn : listOK ns = true) : listOK (spliceList j d ns l) = true := by
  rw [listOK_iff] at hl hn ⊢
  intro x hx
  simp only [spliceList, List.mem_append] at hx
  rcases hx with hx | hx | hx
  · exact hl x (List.mem_of_mem_take hx)
  · exact hn x hx
  · exact hl x (List.mem_of_mem_drop hx)

theorem listOK_set {l : List Expr} {j : Nat} {x : Expr} (hl : listOK l = true)
    (hx : TreeOK x = true) : listOK (l.set j x) = true := by
  rw [listOK_iff] at hl ⊢
  intro y hy
  rcases List.mem_or_eq_of_mem_set hy with h | h
  · exact hl y h
  · subst h; exact hx

theorem argsOK_set {l : List Expr} {i : Nat} {a : Expr} (hl : argsOK l = true)
    (hs : argShape a = true) (ha : TreeOK a = true) : argsOK (l.set i a) = true := by
  rw [argsOK_iff] at hl ⊢
  intro y hy
  rcases List.mem_or_eq_of_mem_set hy with h | h
  · exact hl y h
  · subst h; exact ⟨hs, ha⟩

theorem arg_ok {e a : Expr} {i : Nat} (he : TreeOK e = true) (ha : e.args[i]? = some a) :
    argShape a = true ∧ TreeOK a = true := by
  rw [TreeOK_eq, Bool.and_eq_true] at he
  exact (argsOK_iff _).mp he.1 a (List.mem_of_getElem? ha)

theorem holderList_ok {e : Expr} {st : Step} {l : List Expr} (he : TreeOK e = true)
    (hl : holderList e st = some l) : listOK l = true := by
  rcases holderList_inv hl with ⟨j, rfl, _, rfl⟩ | ⟨i, j, a, rfl, ha, _, rfl⟩
  · rw [TreeOK_eq, Bool.and_eq_true] at he
    exact he.2
  · have := (arg_ok he ha).2
    rw [TreeOK_eq, Bool.and_eq_true] at this
    exact this.2

/-- The argument that holds the list addressed by `st` keeps its shape when it receives the
new contents `l'` (always true for a group; a bare command must stay bare). -/
def shapeKept (e : Expr) (st : Step) (l' : List Expr) : Prop :=
  match st with
  | .body _ => True
  | .arg i _ => ∀ a, e.args[i]? = some a → argShape (a.setBody l') = true

theorem TreeOK_setHolder {e : Expr} {st : Step} {l l' : List Expr} (he : TreeOK e = true)
    (hl : holderList e st = some l) (hl' : listOK l' = true) (hs : shapeKept e st l') :
    TreeOK (setHolder e st l') = true := by
  rcases holderList_inv hl with ⟨j, rfl, _, rfl⟩ | ⟨i, j, a, rfl, ha, _, rfl⟩
  · exact TreeOK_setBody he hl'
  · simp only [setHolder, ha]
    have he2 := he
    rw [TreeOK_eq, Bool.and_eq_true] at he2
    exact TreeOK_setArgs he (argsOK_set he2.1 (hs a ha) (TreeOK_setBody (arg_ok he ha).2 hl'))

/-- An argument that has contents is a group, and stays one whatever it holds. -/
theorem shapeKept_of_nonempty {e : Expr} {st : Step} {l l' : List Expr} (he : TreeOK e = true)
    (hl : holderList e st = some l) (hne : 0 < l.length) : shapeKept e st l' := by
  rcases holderList_inv hl with ⟨j, rfl, _, rfl⟩ | ⟨i, j, a, rfl, ha, _, rfl⟩
  · trivial
  · intro a' ha'
    cases ha.symm.trans ha'
    have hsh := (arg_ok he ha).1
    cases a with
    | group k b p => rfl
    | cmd n aa b p =>
      cases b with
      | nil => cases hne
      | cons _ _ => cases aa <;> cases hsh
    | _ => cases hsh

theorem stepGet_ok {e x : Expr} {st : Step} (he : TreeOK e = true) (hx : stepGet e st = some x) :
    TreeOK x = true := by
  obtain ⟨l, hl, hlx⟩ := stepGet_holder hx
  exact (listOK_iff l).mp (holderList_ok he hl) x (List.mem_of_getElem? hlx)

theorem getAt_ok {q : Path} : ∀ {e y : Expr}, TreeOK e = true → getAt e q = some y →
    TreeOK y = true := by
  induction q with
  | nil => intro e y he h; cases h; exact he
  | cons st q ih =>
    intro e y he h
    obtain ⟨x, hx, h⟩ := getAt_cons_some.1 h
    exact ih (stepGet_ok he hx) h

theorem updAt_ok {q : Path} {f : Expr → Option Expr} : ∀ {e e' : Expr}, TreeOK e = true →
    (∀ y y', getAt e q = some y → f y = some y' → TreeOK y' = true) →
    updAt e q f = some e' → TreeOK e' = true := by
  induction q with
  | nil => intro e e' he hf hu; exact hf e e' rfl hu
  | cons st q ih =>
    intro e e' he hf hu
    obtain ⟨l, x, x', hl, hlx, hx', rfl⟩ := updAt_cons_some.1 hu
    have hx := (holderList_stepGet hl).trans hlx
    have hx'ok : TreeOK x' = true :=
      ih (stepGet_ok he hx) (fun y y' hy => hf y y' (getAt_cons_some.2 ⟨x, hx, hy⟩)) hx'
    exact TreeOK_setHolder he hl (listOK_set (holderList_ok he hl) hx'ok)
      (shapeKept_of_nonempty he hl (Nat.zero_lt_of_lt (List.getElem?_eq_some_iff.mp hlx).1))

theorem rootWrap_ok (es : List Expr) : TreeOK (rootWrap es) = listOK es := by
  simp [rootWrap, TreeOK, argsOK]

def _root_.TexSoup.Expr.isGroup : Expr → Bool
  | .group _ _ _ => true
  | _ => false

/-- New material of an edit is well-formed; `setString` does not write into a bare command
that stands as the single argument of a command (that would give it contents). -/
def OpOK (es : List Expr) : EditOp → Prop
  | .replace _ ns => listOK ns = true
  | .insert _ _ ns => listOK ns = true
  | .append _ ns => listOK ns = true
  | .setArgs _ as => argsOK as = true
  | .setString p _ => ∀ n a b pos, getAtRoot es p = some (.cmd n [a] b pos) → a.isGroup = true
  | _ => True

theorem site_ok {es : List Expr} {op : EditOp} {σ : Site} (h : siteOf es op = some σ)
    (hes : listOK es = true) (hns : listOK σ.ns = true)
    (hshape : ∀ e l, getAtRoot es σ.q = some e → holderList e σ.st = some l →
      σ.st.idx + σ.d ≤ l.length → shapeKept e σ.st (spliceList σ.st.idx σ.d σ.ns l)) :
    listOK (applyEdit es op) = true := by
  obtain ⟨e, l, _, es', he, hl, hd, _, hu, rfl, _⟩ := site_splice h
  have hroot : TreeOK (rootWrap es) = true := by rw [rootWrap_ok]; exact hes
  rw [← rootWrap_ok]
  refine updAt_ok hroot (fun y y' hy hfy => ?_) hu
  cases he.symm.trans hy
  cases (holderSpliceF_eq σ.ns hl hd).symm.trans hfy
  have hyok := getAt_ok hroot hy
  exact TreeOK_setHolder hyok hl (listOK_spliceList _ _ (holderList_ok hyok hl) hns)
    (hshape e l he hl hd)

theorem node_ok {es : List Expr} {p : Path} {f : Expr → Option Expr} {R : Expr}
    (hes : listOK es = true) (hf : ∀ y y', TreeOK y = true → f y = some y' → TreeOK y' = true)
    (hu : updAt (rootWrap es) p f = some R) : listOK R.body = true := by
  have hroot : TreeOK (rootWrap es) = true := by rw [rootWrap_ok]; exact hes
  have := updAt_ok hroot (fun y y' hy => hf y y' (getAt_ok hroot hy)) hu
  rw [TreeOK_eq, Bool.and_eq_true] at this
  exact this.2

theorem renameE_ok {n : Str} {y y' : Expr} (hy : TreeOK y = true) (h : renameE n y = some y') :
    TreeOK y' = true := by
  cases y <;> cases h <;> exact hy

theorem setArgsE_ok {as : List Expr} {y y' : Expr} (has : argsOK as = true) (hy : TreeOK y = true)
    (h : setArgsE as y = some y') : TreeOK y' = true := by
  cases ha : y.hasArgs with
  | false => rw [setArgsE_none as ha] at h; cases h
  | true => rw [setArgsE_eq as ha] at h; cases h; exact TreeOK_setArgs hy has

/-- The material of an admissible edit is well-formed, and the argument that receives it (if
it goes into an argument) keeps its shape: an element is removed there, so the argument is a
group, or `setString` writes into the single argument of a command, a group by `OpOK`. -/
theorem siteOf_ok {es : List Expr} {op : EditOp} {σ : Site} (hes : listOK es = true)
    (hop : OpOK es op) (h : siteOf es op = some σ) :
    listOK σ.ns = true ∧ ∀ e l, getAtRoot es σ.q = some e → holderList e σ.st = some l →
      σ.st.idx + σ.d ≤ l.length → shapeKept e σ.st (spliceList σ.st.idx σ.d σ.ns l) := by
  have hroot : TreeOK (rootWrap es) = true := by rw [rootWrap_ok]; exact hes
  have removes : σ.d = 1 → ∀ e l, getAtRoot es σ.q = some e → holderList e σ.st = some l →
      σ.st.idx + σ.d ≤ l.length → shapeKept e σ.st (spliceList σ.st.idx σ.d σ.ns l) :=
    fun h1 e l he hl hd => shapeKept_of_nonempty (getAt_ok hroot he) hl (by omega)
  cases op with
  | delete p | replace p ns =>
    simp only [siteOf] at h
    split at h
    · split at h
      · injection h with h; subst h
        exact ⟨by first | rfl | exact hop, removes rfl⟩
      · cases h
    · cases h
  | insert c i ns | append c ns =>
    simp only [siteOf] at h
    split at h
    · split at h
      · injection h with h; subst h
        exact ⟨hop, fun _ _ _ _ _ => trivial⟩
      · cases h
    · cases h
  | setString p s =>
    simp only [siteOf] at h
    split at h
    · cases h
    · split at h
      · rename_i y hy
        split at h
        · rename_i st d hs
          injection h with h; subst h
          refine ⟨by simp [listOK, TreeOK], fun e l he _ _ => ?_⟩
          have hsite := setStringE_site s y
          rw [hs] at hsite
          rcases hsite.2.2 with rfl | ⟨rfl, n, a, b, pos, rfl⟩
          · trivial
          · obtain rfl : Expr.cmd n [a] b pos = e := Option.some.inj (hy.symm.trans he)
            intro a' ha'
            obtain rfl : a = a' := by simpa [Expr.args] using ha'
            have hg := hop n a b pos hy
            cases a <;> first | rfl | cases hg
        · cases h
      · cases h
  | rename p n => simp [siteOf] at h
  | setArgs p as => simp [siteOf] at h

/-- Whole histories: every op must be `OpOK` for the document it is applied to. -/
def HistOK : List Expr → List EditOp → Prop
  | _, [] => True
  | es, op :: ops => OpOK es op ∧ HistOK (applyEdit es op) ops

end TexSoup.Edit
