import TexSoupProofs.Sound.Expr
/-!
# Soundness of the strict reader

All reader functions at once, by induction over their successful runs, then `read_tex`.
-/
namespace TexSoup.Gram
open TexSoup

theorem soundAt (skip0 : List Str) (f : Nat) : SoundAt skip0 f := by
  obtain ⟨hE, hI, hME, hMB, hEnv, hEB, hC, hAs, hAO, hAR, hA, hAB⟩ := reader_induct
    (PE := fun _ skip tol mode ts e rest => tol = false → SdExpr skip0 skip mode ts e rest)
    (PI := fun _ ts es rest => SdItem skip0 ts es rest)
    (PME := fun _ k pos tol ts e rest => tol = false → SdMathEnv skip0 k pos ts e rest)
    (PMB := fun _ k tol ts es rest => tol = false → SdMathBody skip0 k ts es rest)
    (PEnv := fun _ name args pos skip tol mode ts e rest =>
      tol = false → SdEnv skip0 name args pos skip mode ts e rest)
    (PEB := fun _ skip tol mode ts be rest => tol = false → SdEnvBody skip0 skip mode ts be.1 be.2 rest)
    (PC := fun _ nreq nopt tol mode ts na rest =>
      tol = false → SdCommand skip0 nreq nopt mode ts na.1 na.2 rest)
    (PAs := fun _ nreq nopt tol mode ts args rest => tol = false → SdArgs skip0 nreq nopt mode ts args rest)
    (PAO := fun _ n tol mode ts gn rest => tol = false → SdArgOpt skip0 n mode ts gn.1 gn.2 rest)
    (PAR := fun _ n tol mode ts gn rest => tol = false → SdArgReq skip0 n mode ts gn.1 gn.2 rest)
    (PA := fun _ k pos tol mode ts e rest => tol = false → SdArg skip0 k pos mode ts e rest)
    (PAB := fun _ k tol mode ts es rest => tol = false → SdArgBody skip0 k mode ts es rest)
    (expr_math := fun hk _ i ht => sd_expr_math hk (i ht))
    (expr_item := fun _ hesc hc ic hitem hm _ ii ht => sd_expr_item hesc hc (ic ht) hitem hm ii)
    (expr_skipEnv := fun _ hesc hc ic _ hb hargs hs h ht => sd_expr_skipEnv hesc hc (ic ht) hb hargs hs h)
    (expr_env := fun _ hesc hc ic _ hb hargs hs _ ie ht => sd_expr_env hesc hc (ic ht) hb hargs hs (ie ht))
    (expr_cmd := fun _ hesc hc ic hitem hb ht => sd_expr_cmd hesc hc (ic ht) hitem hb)
    (expr_group := fun _ _ hg _ ia ht => sd_expr_group hg (ia ht))
    (expr_text := fun hk hesc hg _ => sd_expr_text hk hesc hg)
    (item_nil := sd_item_stop rfl)
    (item_stop := fun hesc hc _ hend => sd_item_peeked hesc hc hend)
    (item_close := fun _ hge => sd_item_stop (by simp [itemStop, hge]))
    (item_step := fun hp hq _ ie _ ii => sd_item_step hp hq (ie rfl) ii)
    (mathEnv_intro := fun _ ib hend ht => sd_mathEnv (ib ht) hend)
    (mathBody_nil := fun _ => sd_mathBody_stop)
    (mathBody_stop := fun _ _ => sd_mathBody_stop)
    (mathBody_step := fun hend _ ie _ ib ht => sd_mathBody_step hend (ie ht) (ib ht))
    (env_unclosed := fun _ _ _ htol ht => by rw [htol] at ht; cases ht)
    (env_closed := fun _ ib herr hc ic ht => by subst ht; exact sd_env_closed (ib rfl) herr hc (ic rfl))
    (envBody_nil := fun _ _ _ _ _ => ⟨[], by simp, by simp, by simp, fun _ h => nomatch h⟩)
    (envBody_stop := fun hesc hc _ hend ht => by subst ht; exact sd_envBody_end hesc hc hend)
    -- the look-ahead calls `readArg` on a group that follows: sound by the hypothesis at this fuel
    (envBody_step := fun hall hp _ ie _ ib ht => by
      subst ht
      obtain ⟨_, _, _, _, _, _, _, _, _, _, hArg, _⟩ := hall
      exact sd_envBody_step (fun _ _ _ _ h => hArg _ _ _ _ _ _ _ h rfl)
        (fun h => (hp h).imp fun _ h => h.imp fun _ h => ⟨h.1, h.2.2⟩) (ie rfl) (ib rfl))
    (command_nil := fun _ _ _ _ hne => absurd rfl hne)
    (command_cons := fun _ ia ht hy _ hsign hrep hshape =>
      let ⟨a1, a2, a3, a4, h⟩ := ia ht hy.tail hsign hrep hshape
      ⟨_, a1, a2, a3, a4, rfl, h⟩)
    (args_none := fun h0 _ => sd_args_none h0)
    (args_run := fun _ _ i1 _ i2 p3 p4 ht => sd_args_run (i1 ht) (i2 ht)
      (p3.imp (fun h => ⟨h.1, h.2.2 ht⟩) id) (p4.imp (fun h => ⟨h.1, h.2.2 ht⟩) id))
    (argOpt_zero := fun h0 _ => sd_argOpt_stop (.inl (by simpa using h0)))
    (argOpt_group := fun h0 hs hb _ ia _ io ht =>
      sd_run_group h0 hs (by simpa [GKind.tokBegin] using hb) (ia ht) (io ht))
    (argOpt_none := fun _ h _ => sd_argOpt_stop (.inr (hdCat_afterSp_ne h)))
    (argReq_zero := fun h0 _ => sd_argReq_stop (.inl (by simpa using h0)))
    (argReq_group := fun h0 hs hb _ ia _ io ht =>
      sd_run_group h0 hs (by simpa [GKind.tokBegin] using hb) (ia ht) (io ht))
    -- a bare command or token as argument is not representable
    (argReq_command := fun _ _ _ _ _ _ _ _ _ _ _ hrep => by simp [repA] at hrep)
    (argReq_token := fun _ _ _ _ _ _ _ _ _ hrep => by simp [repA] at hrep)
    (argReq_none := fun h0 h _ => sd_argReq_none h0 h)
    (arg_intro := fun _ ib ht hy hrep =>
      let ⟨b, c, htk, htr, hc, hwf⟩ := ib ht hy (hrep _ rfl)
      ⟨b, c, htk, by rw [htr], hc, hwf⟩)
    (argBody_nil := fun htol ht => by rw [htol] at ht; cases ht)
    (argBody_close := fun {_ _ _ _ t _} hend _ _ _ =>
      ⟨[], t, by simp, by simp, by simpa using hend, by simp⟩)
    (argBody_step := fun hend _ ie _ ib ht => sd_argBody_step hend (ie ht) (ib ht))
    f
  exact ⟨fun _ _ _ _ _ h => hE _ _ _ _ _ _ h rfl, hI,
    fun _ _ _ _ _ h => hME _ _ _ _ _ _ h rfl, fun _ _ _ _ h => hMB _ _ _ _ _ h rfl,
    fun _ _ _ _ _ _ _ _ h => hEnv _ _ _ _ _ _ _ _ _ h rfl,
    fun _ _ _ es ea _ h => hEB _ _ _ _ (es, ea) _ h rfl,
    fun _ _ _ _ n args _ h => hC _ _ _ _ _ (n, args) _ h rfl,
    fun _ _ _ _ _ _ h => hAs _ _ _ _ _ _ _ h rfl,
    fun _ _ _ gs n' _ h => hAO _ _ _ _ (gs, n') _ h rfl,
    fun _ _ _ gs n' _ h => hAR _ _ _ _ (gs, n') _ h rfl,
    fun _ _ _ _ _ _ h => hA _ _ _ _ _ _ _ h rfl, fun _ _ _ _ _ h => hAB _ _ _ _ _ _ h rfl⟩

/-- **Whatever `read_tex` returns in strict mode on a representable input is the tree of a
well-formed document with exactly these tokens.** -/
theorem readTex_sound (skip : List Str) : ∀ (f : Nat) (ts : List Tok) (es : List Expr),
    readTex f skip false ts = .ok es → SHyp skip ts → repL .nonMath es = true →
    ∃ d : Doc, toksD d = ts ∧ treeD d = es ∧ WFD skip d = true := by
  intro f ts es h
  refine readTex_induct (P := fun _ ts es => SHyp skip ts → repL .nonMath es = true →
    ∃ d : Doc, toksD d = ts ∧ treeD d = es ∧ WFD skip d = true) (fun _ _ => ⟨[], rfl, rfl, rfl⟩) ?_ h
  intro f t r e ts1 es he _ ih hy hrep
  obtain ⟨hr1, hr2⟩ := repL_cons.1 hrep
  obtain ⟨el, htk, htr, hwf⟩ := (soundAt skip f).1 skip .nonMath _ e ts1 he hy (fun _ h => h) hr1
  obtain ⟨d, hd1, hd2, hd3⟩ := ih (hy.after htk) hr2
  refine ⟨el :: d, ?_, ?_, ?_⟩
  · simp only [toksD, toksS_cons] at hd1 ⊢
    rw [hd1, htk]
  · simp only [treeD, trees_cons] at hd2 ⊢
    rw [hd2, htr]
  · unfold WFD at hd3 ⊢
    refine WFs_cons_intro ?_ (by simp [startOK]) hd3 (peekCond_not_env (by simp))
    simp only [toksD] at hd1
    rw [List.append_nil, hd1]; exact hwf

end TexSoup.Gram
