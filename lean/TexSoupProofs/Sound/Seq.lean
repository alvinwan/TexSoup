import TexSoupProofs.Sound.Defs
import TexSoupProofs.Reader.Induct
/-!
# Soundness of one call of the reader; groups, arguments' contents, math regions

`SoundAt` says for each of the twelve reader functions that every successful strict call at a given
fuel is sound. The predicates `SdExpr`, `SdItem`, … below say this of one call, given its result and
the remaining tokens; they are the motives of the induction over the successful runs
(`reader_induct`), and every rule of that induction is proved as a fact about them.
-/
namespace TexSoup.Gram
open TexSoup

section
variable (skip0 : List Str)

def SdExpr (skip : List Str) (mode : Mode) (ts : List Tok) (e : Expr) (rest : List Tok) : Prop :=
  SHyp skip0 ts → SkipSub skip skip0 → rep mode e = true →
    ∃ el, toks el ++ rest = ts ∧ tree el = e ∧ WF skip mode (win rest) el = true

def SdItem (ts : List Tok) (es : List Expr) (rest : List Tok) : Prop :=
  SHyp skip0 ts → repL .nonMath es = true →
    ∃ b, toksS b ++ rest = ts ∧ trees b = es ∧ WFs [] .nonMath .item (win rest) b = true ∧
      itemStop rest = true

def SdMathEnv (k : MKind) (pos : Int) (ts : List Tok) (e : Expr) (rest : List Tok) : Prop :=
  SHyp skip0 ts → (∀ body, e = .math k body pos → repL .math body = true) →
    ∃ b c, toksS b ++ c :: rest = ts ∧ e = .math k (trees b) pos ∧ c.cat = k.tokEnd ∧
      WFs [] .math (.mth k) [c] b = true

def SdMathBody (k : MKind) (ts : List Tok) (es : List Expr) (rest : List Tok) : Prop :=
  SHyp skip0 ts → repL .math es = true →
    ∃ b, toksS b ++ rest = ts ∧ trees b = es ∧ WFs [] .math (.mth k) (win rest) b = true

def SdEnv (name : Str) (args : List Expr) (pos : Int) (skip : List Str) (mode : Mode) (ts : List Tok)
    (e : Expr) (rest : List Tok) : Prop :=
  SHyp skip0 ts → SkipSub skip skip0 → mode ≠ .special →
    (∀ body, e = .nenv name args body pos → repL mode body = true) →
    ∃ (b : List Elem) (esc2 en : Tok) (nm2 : NameArg),
      toksS b ++ esc2 :: en :: (nm2.toks ++ rest) = ts ∧ e = .nenv name args (trees b) pos ∧
      WFs skip mode .env [esc2, en] b = true ∧ esc2.cat = .Escape ∧ en.text = sEnd ∧
      nm2.ok = true ∧ nm2.nt.text = name

/-- `ea`: the arguments of the `\end` the loop stopped at, which the look-ahead has read. -/
def SdEnvBody (skip : List Str) (mode : Mode) (ts : List Tok) (es : List Expr)
    (ea : Option (List Expr)) (rest : List Tok) : Prop :=
  SHyp skip0 ts → SkipSub skip skip0 → mode ≠ .special → repL mode es = true →
    ∃ b, toksS b ++ rest = ts ∧ trees b = es ∧ WFs skip mode .env (win rest) b = true ∧
      (∀ eargs, ea = some eargs → ∃ esc n r g rest', rest = esc :: n :: r ∧ esc.cat = .Escape ∧
        n.text = sEnd ∧ readCommand g 1 0 false mode (n :: r) = .ok ((n, eargs), rest'))

def SdCommand (nreq nopt : Int) (mode : Mode) (ts : List Tok) (n : Tok) (args : List Expr)
    (rest : List Tok) : Prop :=
  SHyp skip0 ts → ts ≠ [] → signOK (cmdSig nreq nopt n.text) →
    repA (cmdMode n.text mode) args = true → argShape (cmdSig nreq nopt n.text) args = true →
    ∃ r a1 a2 a3 a4, ts = n :: r ∧ toksA a1 ++ (toksA a2 ++ (toksA a3 ++ (toksA a4 ++ rest))) = r ∧
      treesA .bracket a1 ++ (treesA .brace a2 ++ (treesA .bracket a3 ++ treesA .brace a4)) = args ∧
      WFa (cmdMode n.text mode) .bracket a1 = true ∧ WFa (cmdMode n.text mode) .brace a2 = true ∧
      WFa (cmdMode n.text mode) .bracket a3 = true ∧ WFa (cmdMode n.text mode) .brace a4 = true ∧
      runOK (cmdSig nreq nopt n.text) a1 a2 a3 a4 rest = true

def SdArgs (nreq nopt : Int) (mode : Mode) (ts : List Tok) (args : List Expr) (rest : List Tok) :
    Prop :=
  SHyp skip0 ts → signOK (nreq, nopt) → repA mode args = true → argShape (nreq, nopt) args = true →
    ∃ a1 a2 a3 a4, toksA a1 ++ (toksA a2 ++ (toksA a3 ++ (toksA a4 ++ rest))) = ts ∧
      treesA .bracket a1 ++ (treesA .brace a2 ++ (treesA .bracket a3 ++ treesA .brace a4)) = args ∧
      WFa mode .bracket a1 = true ∧ WFa mode .brace a2 = true ∧
      WFa mode .bracket a3 = true ∧ WFa mode .brace a4 = true ∧
      runOK (nreq, nopt) a1 a2 a3 a4 rest = true

/-- `n'`: how many optional arguments may still follow; the run stopped because none may
(`n' = 0`) or because no bracket follows. -/
def SdArgOpt (n : Int) (mode : Mode) (ts : List Tok) (gs : List Expr) (n' : Int) (rest : List Tok) :
    Prop :=
  SHyp skip0 ts → repA mode gs = true →
    ∃ as, toksA as ++ rest = ts ∧ treesA .bracket as = gs ∧ WFa mode .bracket as = true ∧
      n' = n - as.length ∧ (n' = 0 ∨ (hdCat (afterSp rest) != some .BracketBegin) = true) ∧
      (n = 0 → as = []) ∧ (0 ≤ n → 0 ≤ n')

/-- The run of brace groups stopped because all were read (`n' = 0`), because no brace follows
(open signature, `n' < 0`) or because the input ended (`0 < n'`; any other token would have been
taken as a bare argument, which `repA` excludes). -/
def SdArgReq (n : Int) (mode : Mode) (ts : List Tok) (gs : List Expr) (n' : Int) (rest : List Tok) :
    Prop :=
  SHyp skip0 ts → repA mode gs = true →
    ∃ as, toksA as ++ rest = ts ∧ treesA .brace as = gs ∧ WFa mode .brace as = true ∧
      n' = n - as.length ∧
      (n' = 0 ∨ (n' < 0 ∧ (hdCat (afterSp rest) != some .GroupBegin) = true) ∨
        (0 < n' ∧ afterSp rest = [])) ∧
      (n = 0 → as = []) ∧ (0 ≤ n → 0 ≤ n')

def SdArg (k : GKind) (pos : Int) (mode : Mode) (ts : List Tok) (e : Expr) (rest : List Tok) : Prop :=
  SHyp skip0 ts → (∀ body, e = .group k body pos → repL mode body = true) →
    ∃ b c, toksS b ++ c :: rest = ts ∧ e = .group k (trees b) pos ∧ c.cat = k.tokEnd ∧
      WFs [] mode (.grp k) [c] b = true

def SdArgBody (k : GKind) (mode : Mode) (ts : List Tok) (es : List Expr) (rest : List Tok) : Prop :=
  SHyp skip0 ts → repL mode es = true →
    ∃ b c, toksS b ++ c :: rest = ts ∧ trees b = es ∧ c.cat = k.tokEnd ∧
      WFs [] mode (.grp k) [c] b = true

end

section
variable {skip0 : List Str}

theorem SHyp.after {c rest ts : List Tok} (h : SHyp skip0 ts) (e : c ++ rest = ts) :
    SHyp skip0 rest := (e ▸ h).suffix

/-- One more element in front of a sequence that spells the following tokens up to `X` and is
judged against `nx`, which shows the same window as `X`. -/
theorem seq_cons {skip m ctx nx X ts el b e es}
    (htk : toks el ++ (toksS b ++ X) = ts) (htr : tree el = e)
    (hwf : WF skip m (win (toksS b ++ X)) el = true) (htr2 : trees b = es)
    (hwfs : WFs skip m ctx nx b = true) (hnx : win (toksS b ++ nx) = win (toksS b ++ X))
    (hst : startOK ctx el = true) (hpk : peekCond m ctx el b = true) :
    toksS (el :: b) ++ X = ts ∧ trees (el :: b) = e :: es ∧ WFs skip m ctx nx (el :: b) = true := by
  refine ⟨?_, by rw [trees_cons, htr, htr2], WFs_cons_intro (by rw [hnx]; exact hwf) hst hwfs hpk⟩
  rw [toksS_cons, List.append_assoc, htk]

theorem sd_argBody_step {k mode r ts1 ts2 e es} {t : Tok} (hend : ¬ (t.cat == k.tokEnd) = true)
    (ie : SdExpr skip0 [] mode (t :: r) e ts1) (ib : SdArgBody skip0 k mode ts1 es ts2) :
    SdArgBody skip0 k mode (t :: r) (e :: es) ts2 := by
  intro hy hrep
  obtain ⟨hr1, hr2⟩ := repL_cons.1 hrep
  obtain ⟨el, htk, htr, hwf⟩ := ie hy (skipSub_nil _) hr1
  obtain ⟨b, c, rfl, htr2, hc, hwfs⟩ := ib (hy.after htk) hr2
  have hst : startOK (.grp k) el = true := by
    simp only [startOK, bne_iff_ne, ne_eq]
    rw [firstTok_of_toks htk]
    simpa using hend
  obtain ⟨h1, h2, h3⟩ := seq_cons htk htr hwf htr2 hwfs
    (win_seq_closer (toksS b) c ts2 (by rw [hc]; exact tokEnd_ne_sp k) (by rw [hc]; exact tokEnd_ne_esc k)).symm
    hst (peekCond_not_env (by simp))
  exact ⟨el :: b, c, h1, h2, hc, h3⟩

theorem sd_mathBody_stop {k ts} : SdMathBody skip0 k ts [] ts :=
  fun _ _ => ⟨[], by simp, by simp, by simp [WFs]⟩

theorem sd_mathBody_step {k r ts1 ts2 e es} {t : Tok}
    (hend : ¬ (t.cat == k.tokEnd) = true) (ie : SdExpr skip0 [] .math (t :: r) e ts1)
    (ib : SdMathBody skip0 k ts1 es ts2) : SdMathBody skip0 k (t :: r) (e :: es) ts2 := by
  intro hy hrep
  obtain ⟨hr1, hr2⟩ := repL_cons.1 hrep
  obtain ⟨el, htk, htr, hwf⟩ := ie hy (skipSub_nil _) hr1
  obtain ⟨b, rfl, htr2, hwfs⟩ := ib (hy.after htk) hr2
  have hst : startOK (.mth k) el = true := by
    simp only [startOK, bne_iff_ne, ne_eq]
    rw [firstTok_of_toks htk]
    simpa using hend
  obtain ⟨h1, h2, h3⟩ := seq_cons htk htr hwf htr2 hwfs (win_append _ _).symm hst
    (peekCond_not_env (by simp))
  exact ⟨el :: b, h1, h2, h3⟩

theorem sd_mathEnv {k pos ts r body} {t : Tok}
    (ib : SdMathBody skip0 k ts body (t :: r)) (hend : (t.cat == k.tokEnd) = true) :
    SdMathEnv skip0 k pos ts (.math k body pos) r := by
  intro hy hrep
  obtain ⟨b, htk, htr, hwf⟩ := ib hy (hrep body rfl)
  have hc : t.cat = k.tokEnd := by simpa using hend
  rw [win_closer r (by rw [hc]; exact mtokEnd_ne_sp k) (by rw [hc]; exact mtokEnd_ne_esc k)] at hwf
  exact ⟨b, t, htk, by rw [htr], hc, hwf⟩

end

end TexSoup.Gram
