import TexSoupProofs.Sound.Seq
import TexSoupProofs.Complete.Main
import TexSoupProofs.Complete.ModeMonoWF
import TexSoupProofs.Reader.ModeMono
import TexSoupProofs.Reader.Fuel
import TexSoupProofs.Reader.HypCheck
/-!
# Soundness: the look-ahead of `read_env` on an argument-less command in front of a group

In an environment body every element that starts with a backslash is first *peeked* with the
signature `(1, 0)` of `\end`. For a command written without arguments that is directly followed
by a free brace group, the peek reads that group as an argument – in the mode of the environment
(math mode in `equation`, …), although the group itself is read in non-math mode afterwards.
`WFs` asks that the group is well-formed in that mode, too. Here this is derived from the fact
that the peek succeeded:

 * what a reader returns in math mode it returns in non-math mode (`readArg_math_nonMath`), so
   the peek returned the tree of the group;
 * the peek calls `read_arg` on the group, and that call succeeds with the fuel of the peek as
   well; its soundness gives a body that is well-formed in math mode, with the same tokens and
   the same tree;
 * well-formed in math mode implies well-formed in non-math mode (`WFs_mle`), so that body can
   be *swapped in* for the body of the group in the witness (`swap_group`).
-/
namespace TexSoup.Gram
open TexSoup

theorem special_open :
    ∀ n, memStr n Tables.specialCommands = true → cmdSig (-1) (-1) n = (-1, -1) := by
  have key : ∀ n ∈ Tables.specialCommands, cmdSig (-1) (-1) n = (-1, -1) := by decide
  intro n hn
  exact key n (memStr_mem hn)

theorem readArgs10_group {tol mode r rest r3 args} {g : Nat} {o : Tok}
    (h : readArgs g 1 0 tol mode r = .ok (args, rest))
    (hs : (readSpacer r).2 = o :: r3) (ho : o.cat = .GroupBegin) :
    ∃ g' a as ts', g' < g ∧ args = a :: as ∧ readArg g' .brace o.pos tol mode r3 = .ok (a, ts') := by
  cases g with
  | zero => cases h
  | succ g1 =>
    unfold readArgs at h
    rw [if_neg (by decide)] at h
    obtain ⟨an1, ts1, h1, h⟩ := Res.bind_eq_ok.mp h
    obtain ⟨an2, ts2, h2, h⟩ := Res.bind_eq_ok.mp h
    obtain ⟨an3, ts3, -, h⟩ := Res.bind_eq_ok.mp h
    obtain ⟨an4, ts4, -, h⟩ := Res.bind_eq_ok.mp h
    cases h
    cases readArgOpt_zero h1
    cases g1 with
    | zero => cases h2
    | succ g2 =>
      unfold readArgReq at h2
      rw [if_neg (by decide), hs] at h2
      simp only at h2
      rw [if_pos (by simp [ho])] at h2
      obtain ⟨a, ts', ha, h2⟩ := Res.bind_eq_ok.mp h2
      obtain ⟨gn, tsB, -, h2⟩ := Res.bind_eq_ok.mp h2
      cases h2
      exact ⟨g2, a, _, ts', by omega, rfl, ha⟩

theorem peek_reads_group {tol mode X r r3} {f : Nat} {n : Tok} {o : Tok}
    (h : readCommand f 1 0 tol mode (n :: X) = .ok r) (hs : (readSpacer X).2 = o :: r3)
    (ho : o.cat = .GroupBegin) :
    ∃ g a ts', g < f ∧ readArg g .brace o.pos tol (cmdMode n.text mode) r3 = .ok (a, ts') := by
  cases f with
  | zero => cases h
  | succ f1 =>
    unfold readCommand at h
    obtain ⟨args, ts2, h, -⟩ := Res.bind_eq_ok.mp h
    rw [cmdSig_given 1 0 (by omega)] at h
    obtain ⟨g, a, _, ts', hg, -, ha⟩ := readArgs10_group h hs ho
    exact ⟨g, a, ts', by omega, ha⟩

theorem append_closer_inj {a a' Y : List Tok} {c c' : Tok} (h : a ++ c :: Y = a' ++ c' :: Y) :
    a = a' ∧ c = c' := by
  have h' : (a ++ [c]) ++ Y = (a' ++ [c']) ++ Y := by simpa using h
  have h2 := List.append_cancel_right h'
  have := List.append_inj' h2 rfl
  exact ⟨this.1, by simpa using this.2⟩

theorem peekCond_of_noArgName {m ctx e es}
    (h : noArgName e = none) : peekCond m ctx e es = true :=
  (peekCond_iff m ctx e es).2 fun _ n hn => by rw [h] at hn; cases hn

theorem peekCond_cmd_group {m ctx a3 a4 es bb} {esc name : Tok} {c : Tok}
    (hg : nextGroup es = some (bb, c))
    (h : WFs [] (cmdMode name.text m) (.grp .brace) [c] bb = true) :
    peekCond m ctx (.cmd esc name [] [] a3 a4) es = true := by
  rw [peekCond_iff]
  intro _ n hn bb2 c2 hg2
  cases hg.symm.trans hg2
  cases hn
  exact h

theorem nextGroup_afterSp {skip m ctx nx b bb} {c : Tok} (hw : WFs skip m ctx nx b = true)
    (hg : nextGroup b = some (bb, c))
    (X : List Tok) :
    hdCat (afterSp (toksS b ++ X)) = some .GroupBegin ∧
    WFs [] .nonMath (.grp .brace) [c] bb = true ∧
    (∀ m', repL m' (trees b) = true → repL .nonMath (trees bb) = true) ∧
    ∃ o Y, (readSpacer (toksS b ++ X)).2 = o :: (toksS bb ++ c :: Y) ∧ o.cat = .GroupBegin ∧
      c.cat = .GroupEnd ∧ ∃ pre, toksS b ++ X = pre ++ (toksS bb ++ c :: Y) := by
  rcases nextGroup_some hg with ⟨o, tl, rfl⟩ | ⟨s, o, tl, rfl, hs⟩
  · obtain ⟨ho, hc, hbb⟩ := WF_group.1 (WFs_cons hw).1
    refine ⟨?_, hbb, fun m' h => by simpa [rep, tree] using (repL_cons.1 h).1, o, toksS tl ++ X, ?_, ho, hc,
      [o], by simp [toks]⟩
    · simp only [toksS_cons, toks, List.cons_append]
      rw [afterSp_cons_ne _ (by rw [ho]; decide)]
      simp [hdCat, ho]
    · simp [toks, readSpacer, ho]
  · obtain ⟨ho, hc, hbb⟩ := WF_group.1 (WFs_cons (WFs_cons hw).2.2.1).1
    refine ⟨?_, hbb, fun m' h => by simpa [rep, tree] using (repL_cons.1 (repL_cons.1 h).2).1, o,
      toksS tl ++ X, ?_, ho, hc, [s, o], by simp [toks]⟩
    · simp only [toksS_cons, toks, List.cons_append, List.nil_append]
      rw [afterSp_cons_sp _ hs]
      simp [hdCat, ho]
    · simp [toks, readSpacer, hs]

theorem swap_group {skip m nx b bb bb'} {c : Tok}
    (hw : WFs skip m .env nx b = true) (hg : nextGroup b = some (bb, c))
    (htk : toksS bb' = toksS bb) (htr : trees bb' = trees bb)
    (hwf' : WFs [] .nonMath (.grp .brace) [c] bb' = true) :
    ∃ b', toksS b' = toksS b ∧ trees b' = trees b ∧ WFs skip m .env nx b' = true ∧
      nextGroup b' = some (bb', c) := by
  have swap : ∀ {o : Tok} {tl : List Elem} {nx' : List Tok},
      WFs skip m .env nx' (.group o bb c :: tl) = true →
      WFs skip m .env nx' (.group o bb' c :: tl) = true := by
    intro o tl nx' h
    obtain ⟨h1, -, h3, -⟩ := WFs_cons h
    exact WFs_cons_intro (WF_group.2 ⟨(WF_group.1 h1).1, (WF_group.1 h1).2.1, hwf'⟩)
      (by simp [startOK, nameText]) h3 (peekCond_of_noArgName rfl)
  rcases nextGroup_some hg with ⟨o, tl, rfl⟩ | ⟨s, o, tl, rfl, hs⟩
  · exact ⟨.group o bb' c :: tl, by simp [toks, htk], by simp [tree, htr], swap hw, by simp [nextGroup]⟩
  · obtain ⟨g1, g2, g3, -⟩ := WFs_cons hw
    refine ⟨.leaf s :: .group o bb' c :: tl, by simp [toks, htk], by simp [tree, htr], ?_,
      by simp [nextGroup, hs]⟩
    refine WFs_cons_intro ?_ g2 (swap g3) (peekCond_of_noArgName rfl)
    have : toksS (Elem.group o bb' c :: tl) = toksS (Elem.group o bb c :: tl) := by simp [toks, htk]
    rw [this]; exact g1

/-- **The look-ahead clause of `WFs`, from the fact that the look-ahead succeeded.** The witness
for the rest of the body is adjusted (`swap_group`). -/
theorem peekCond_of_peek {skip0} {f : Nat}
    (hsd : ∀ pos ts e rest, readArg f .brace pos false .math ts = .ok (e, rest) →
      SdArg skip0 .brace pos .math ts e rest)
    {skip : List Str} {mode : Mode} {nx : List Tok} {el : Elem} {b : List Elem} {ts2 : List Tok}
    {t : Tok} {r : List Tok} (hmode : mode ≠ .special)
    (hwf : WF skip mode (win (toksS b ++ ts2)) el = true) (hwb : WFs skip mode .env nx b = true)
    (htk : toks el ++ (toksS b ++ ts2) = t :: r) (hy : SHyp skip0 (t :: r))
    (hrep : repL mode (trees b) = true)
    (hpk : t.cat = .Escape → ∃ na ts', readCommand f 1 0 false mode r = .ok (na, ts')) :
    ∃ b', toksS b' = toksS b ∧ trees b' = trees b ∧ WFs skip mode .env nx b' = true ∧
      peekCond mode .env el b' = true := by
  cases hna : noArgName el with
  | none => exact ⟨b, rfl, rfl, hwb, peekCond_of_noArgName hna⟩
  | some nm =>
    cases hng : nextGroup b with
    | none =>
      refine ⟨b, rfl, rfl, hwb, ?_⟩
      rw [peekCond_iff]; intro _ n _ bb c hg; rw [hng] at hg; cases hg
    | some bc =>
      obtain ⟨bb, c⟩ := bc
      obtain ⟨hgb, hwbb, hrbb, o, Y, hsp, ho, hcc, pre, hpre⟩ := nextGroup_afterSp hwb hng ts2
      obtain ⟨esc, name, a3, a4, rfl, rfl⟩ := noArgName_some hna
      obtain ⟨⟨hesc, -, -⟩, -, -, -, -, hrun⟩ := WF_cmd.1 hwf
      rw [runOK_win] at hrun
      obtain ⟨rfl, rfl⟩ := runOK_noargs hrun
      by_cases hspc : memStr name.text Tables.specialCommands = true
      · exfalso
        have := runOK_noargs_open (by rw [special_open _ hspc]; decide) hrun
        rw [hgb] at this
        simp at this
      · have hcm : cmdMode name.text mode = mode := by unfold cmdMode; rw [if_neg hspc]
        cases mode with
        | special => exact absurd rfl hmode
        | nonMath => exact ⟨b, rfl, rfl, hwb, peekCond_cmd_group hng (by rw [hcm]; exact hwbb)⟩
        | math =>
          simp only [toks, toksA_nil, List.append_nil, List.nil_append, List.cons_append,
            List.cons.injEq] at htk
          obtain ⟨rfl, rfl⟩ := htk
          obtain ⟨na, ts', hc⟩ := hpk hesc
          obtain ⟨g, a, tsA, hgle, hA⟩ := peek_reads_group hc hsp ho
          rw [hcm] at hA
          -- the same call in non-math mode returns the tree of the group
          have hcompl := readArg_complete .brace o.pos false .nonMath c hcc bb (elems_both bb) hwbb Y _
            (Nat.le_refl _)
          cases readArg_fuel_det (readArg_math_nonMath hA) hcompl
          -- soundness of the call inside the peek, which succeeds with the fuel of the peek, too
          have hy' : SHyp skip0 (toksS bb ++ c :: Y) :=
            hy.after (c := esc :: name :: pre) (by rw [hpre]; simp)
          obtain ⟨bb', c', htk', htr', -, hwf'⟩ :=
            hsd o.pos _ _ Y (readArg_mono hA (Nat.le_of_lt hgle) id (.refl _)) hy'
              fun body hb => by cases hb; rw [repL_mode .math .nonMath]; exact hrbb _ hrep
          obtain ⟨htkbb, rfl⟩ := append_closer_inj htk'
          obtain ⟨b', e1, e2, hwb', hng'⟩ := swap_group hwb hng htkbb (Expr.group.inj htr').2.1.symm
            (WFs_mle bb' _ _ _ _ _ MLe.math_nonMath hwf')
          exact ⟨b', e1, e2, hwb', peekCond_cmd_group hng' (by rw [hcm]; exact hwf')⟩

end TexSoup.Gram
