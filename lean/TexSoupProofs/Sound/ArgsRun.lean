import TexSoupProofs.Sound.Args
/-!
# Soundness of `read_args`: the continuation phases, which read only what follows directly
-/
namespace TexSoup.Gram
open TexSoup

theorem treesA_mem {k : GKind} {as : List Arg} {x : Expr} (h : x ∈ treesA k as) :
    ∃ b p, x = .group k b p := by
  induction as with
  | nil => simp at h
  | cons a as ih =>
    cases a
    simp only [treesA_cons, treeArg, List.mem_cons] at h
    exact h.elim (fun h => ⟨_, _, h⟩) ih

theorem treesA_bracket_all (as : List Arg) : ∀ x ∈ treesA .bracket as, isBracketG x = true := by
  intro x hx
  obtain ⟨b, p, rfl⟩ := treesA_mem hx
  rfl

theorem treesA_brace_all (as : List Arg) :
    ∀ x ∈ treesA .brace as, isBraceG x = true ∧ isBracketG x = false := by
  intro x hx
  obtain ⟨b, p, rfl⟩ := treesA_mem hx
  exact ⟨rfl, rfl⟩

theorem dropWhile_append_all {p : Expr → Bool} : ∀ (A B : List Expr), (∀ x ∈ A, p x = true) →
    (∀ x ∈ B.head?, p x = false) → (A ++ B).dropWhile p = B ∧ (A ++ B).takeWhile p = A := by
  intro A
  induction A with
  | nil =>
    intro B _ hB
    cases B with
    | nil => simp
    | cons b B => simp [hB b rfl]
  | cons a A ih =>
    intro B hA hB
    have := ih B (fun x hx => hA x (by simp [hx])) hB
    simp [hA a (by simp), this.1, this.2]

theorem tight_of_nextIs {m k as Y}
    (hw : WFa m k as = true) (hn : nextIs k.tokBegin (toksA as ++ Y) = true) : tight as = true := by
  cases as with
  | nil => rfl
  | cons a as =>
    obtain ⟨ha, _⟩ := WFa_cons hw
    cases a with
    | mk sp o b c =>
      obtain ⟨hs, _, _, _⟩ := WFarg_unfold ha
      cases sp with
      | none => rfl
      | some s =>
        exfalso
        simp only [spOK, beq_iff_eq] at hs
        simp only [toksA_cons, toksArg, Option.toList, List.cons_append, List.nil_append, nextIs, hs,
          beq_iff_eq] at hn
        exact tokBegin_ne_sp k hn.symm

theorem nextIs_true_afterSp {c : TC} {ts : List Tok} (hc : c ≠ .MergedSpacer)
    (h : nextIs c ts = true) :
    hdCat (afterSp ts) = some c := by
  obtain ⟨o, r, hs, ho⟩ := nextIs_readSpacer hc h
  simp [afterSp, hs, hdCat, ho]

theorem hdCat_ne_of_nextIs_false {c : TC} {ts : List Tok} (h : nextIs c ts = false) :
    (hdCat ts != some c) = true := by
  cases ts with
  | nil => rfl
  | cons t r => simpa [nextIs, hdCat] using h

theorem nextIs_false_of_afterSp_nil {c : TC} {ts : List Tok} (hc : c ≠ .MergedSpacer)
    (h : afterSp ts = []) :
    nextIs c ts = false := by
  cases hn : nextIs c ts with
  | false => rfl
  | true =>
    obtain ⟨o, r, hs, _⟩ := nextIs_readSpacer hc hn
    simp [afterSp, hs] at h

theorem countP_treesA_bracket (as : List Arg) : (treesA .bracket as).countP isBraceG = 0 := by
  rw [List.countP_eq_zero]
  intro x hx
  obtain ⟨b, p, rfl⟩ := treesA_mem hx
  simp [isBraceG]

theorem countP_treesA_brace (as : List Arg) : (treesA .brace as).countP isBraceG = as.length := by
  rw [List.countP_eq_length.2 (fun x hx => (treesA_brace_all as x hx).1), treesA_length]

section
variable {skip0 : List Str}

/-- A continuation phase of `read_args`: more groups of kind `k` only directly after what was
read. `S` says why the run stopped; a group that could still be taken does not follow then. -/
theorem sd_args_phase {k : GKind} {mode c ts ts'} {an : List Expr × Int} {S : Prop}
    (h : nextIs k.tokBegin ts = true ∧ (SHyp skip0 ts → repA mode an.1 = true →
        ∃ as, toksA as ++ ts' = ts ∧ treesA k as = an.1 ∧ WFa mode k as = true ∧
          an.2 = c - as.length ∧ S ∧ (c = 0 → as = []) ∧ (0 ≤ c → 0 ≤ an.2)) ∨
      ¬ nextIs k.tokBegin ts = true ∧ an = ([], c) ∧ ts' = ts)
    (hS : S → an.2 = 0 ∨ nextIs k.tokBegin ts' = false)
    (hy : SHyp skip0 ts) (hrep : repA mode an.1 = true) :
    ∃ as, toksA as ++ ts' = ts ∧ treesA k as = an.1 ∧ WFa mode k as = true ∧ tight as = true ∧
      an.2 = c - as.length ∧ (as = [] → ts' = ts ∧ (nextIs k.tokBegin ts = false ∨ c = 0)) ∧
      (as ≠ [] → nextIs k.tokBegin ts = true ∧ c ≠ 0 ∧ S) ∧ (0 ≤ c → 0 ≤ an.2) := by
  rcases h with ⟨hn, io⟩ | ⟨hn, rfl, rfl⟩
  · obtain ⟨as, htk, htr, hwf, hc, hstop, h0, hpos⟩ := io hy hrep
    refine ⟨as, htk, htr, hwf, tight_of_nextIs hwf (by rw [htk]; exact hn), hc, ?_,
      fun hne => ⟨hn, fun hz => hne (h0 hz), hstop⟩, hpos⟩
    intro he
    subst he
    simp only [toksA_nil, List.nil_append] at htk
    subst htk
    refine ⟨rfl, .inr ?_⟩
    simp only [List.length_nil, Int.natCast_zero, Int.sub_zero] at hc
    rcases hS hstop with hs | hs
    · rw [← hc]; exact hs
    · rw [hn] at hs; cases hs
  · exact ⟨[], by simp, by simp, by simp [WFa], rfl, by simp, fun _ => ⟨rfl, .inl (by simpa using hn)⟩,
      fun h => absurd rfl h, fun h => h⟩

end

end TexSoup.Gram
