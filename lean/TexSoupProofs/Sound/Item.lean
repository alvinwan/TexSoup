import TexSoupProofs.Sound.ArgsMain
/-!
# Soundness of `read_item`: the contents of an `\item` end where `itemStop` says
-/
namespace TexSoup.Gram
open TexSoup

theorem readCommand_head {nreq nopt tol mode r rest} {g : Nat} {n : Tok} {na : Tok × List Expr}
    (h : readCommand g nreq nopt tol mode (n :: r) = .ok (na, rest)) : na.1 = n := by
  obtain ⟨_, _, h | h, -⟩ := readCommand_inv h
  · exact (List.cons.inj h).1.symm
  · cases h.1

theorem nameText_none {skip m nx e}
    (hwf : WF skip m nx e = true) (h : (firstTok e).cat ≠ .Escape) : nameText e = none := by
  rcases WF_first hwf with ⟨_, rfl, _⟩ | ⟨_, _, _, rfl, _⟩ | ⟨_, _, _, _, rfl, _⟩ | ⟨hE, _⟩
  · rfl
  · rfl
  · rfl
  · exact absurd hE h

theorem nameText_of_toks {skip m nx el r rest} {t : Tok} (hwf : WF skip m nx el = true)
    (htk : toks el ++ rest = t :: r)
    (hesc : t.cat = .Escape) : ∃ n r', r = n :: r' ∧ nameText el = some n.text := by
  have hft := firstTok_of_toks htk
  obtain ⟨n, r0, h1, h2⟩ := toks_esc hwf (by rw [hft]; exact hesc)
  rw [h1, hft] at htk
  simp only [List.cons_append, List.cons.injEq, true_and] at htk
  exact ⟨n, r0 ++ rest, htk.symm, h2⟩

section
variable {skip0 : List Str}

theorem sd_item_stop {ts} (h : itemStop ts = true) : SdItem skip0 ts [] ts :=
  fun _ _ => ⟨[], by simp, by simp, by simp [WFs], h⟩

/-- the look-ahead of `read_item` found `\end` or `\item` -/
theorem sd_item_peeked {r ts'} {f : Nat} {t : Tok} {na : Tok × List Expr}
    (hesc : (t.cat == TC.Escape) = true)
    (hc : readCommand f 0 0 false .nonMath r = .ok (na, ts')) (hend : itemStops na = true) :
    SdItem skip0 (t :: r) [] (t :: r) := by
  intro hy
  have hE : t.cat = .Escape := by simpa using hesc
  cases r with
  | nil => exact absurd hE (hy.escFollowed [] t rfl)
  | cons n r' =>
    refine sd_item_stop ?_ hy
    rw [itemStops, readCommand_head hc] at hend
    simp only [itemStop, hE, beq_self_eq_true, Bool.true_and, hend, Bool.or_true]

theorem sd_item_step {r ts1 ts2 e es} {PC : Tok × List Expr → List Tok → Prop} {f : Nat} {t : Tok}
    (hp : (t.cat == TC.Escape) = true → ∃ na ts', readCommand f 0 0 false .nonMath r = .ok (na, ts') ∧
      PC na ts' ∧ ¬ itemStops na = true)
    (hq : ¬ (t.cat == TC.Escape) = true → ¬ (t.cat == TC.GroupEnd) = true)
    (ie : SdExpr skip0 [] .nonMath (t :: r) e ts1) (ii : SdItem skip0 ts1 es ts2) :
    SdItem skip0 (t :: r) (e :: es) ts2 := by
  intro hy hrep
  obtain ⟨hr1, hr2⟩ := repL_cons.1 hrep
  obtain ⟨el, htk, htr, hwf⟩ := ie hy (skipSub_nil _) hr1
  obtain ⟨b, rfl, htr2, hwfs, hstop⟩ := ii (hy.after htk) hr2
  have hst : startOK .item el = true := by
    simp only [startOK, Bool.and_eq_true, bne_iff_ne, ne_eq]
    rw [firstTok_of_toks htk]
    by_cases hesc : (t.cat == TC.Escape) = true
    · have hE : t.cat = .Escape := by simpa using hesc
      obtain ⟨na, ts', hc, -, hend⟩ := hp hesc
      obtain ⟨n, r', rfl, hnt⟩ := nameText_of_toks hwf htk hE
      rw [hnt]
      simp only [itemStops, readCommand_head hc, Bool.or_eq_true, beq_iff_eq, not_or] at hend
      exact ⟨⟨by rw [hE]; decide, fun h => hend.1 (Option.some.inj h)⟩,
        fun h => hend.2 (Option.some.inj h)⟩
    · rw [nameText_none hwf (by rw [firstTok_of_toks htk]; simpa using hesc)]
      exact ⟨⟨by simpa using hq hesc, by simp⟩, by simp⟩
  obtain ⟨h1, h2, h3⟩ := seq_cons htk htr hwf htr2 hwfs (win_append _ _).symm hst
    (peekCond_not_env (by simp))
  exact ⟨el :: b, h1, h2, h3, hstop⟩

end

end TexSoup.Gram
