import TexSoupProofs.Sound.Env
import TexSoupProofs.Complete.Verb
/-!
# Facts about the signature table and about raw bodies, for the soundness of `read_expr`
-/
namespace TexSoup.Gram
open TexSoup

theorem signatureOf_cases (x : Str) : ∀ tbl : List (Str × (Int × Int)),
    signatureOf x tbl = (-1, -1) ∨ ∃ e ∈ tbl, signatureOf x tbl = e.2 := by
  intro tbl
  induction tbl with
  | nil => exact .inl rfl
  | cons e r ih =>
    obtain ⟨n, sg⟩ := e
    simp only [signatureOf]
    by_cases h : (x == n) = true
    · rw [if_pos h]; exact .inr ⟨(n, sg), by simp, rfl⟩
    · rw [if_neg h]
      rcases ih with h' | ⟨e', he', h'⟩
      · exact .inl h'
      · exact .inr ⟨e', by simp [he'], h'⟩

theorem cmdSig_signOK (x : Str) : signOK (cmdSig (-1) (-1) x) := by
  have key : ∀ e ∈ Tables.signatures, 0 ≤ e.2.1 ∧ 0 ≤ e.2.2 := by decide
  have : cmdSig (-1) (-1) x = signatureOf x Tables.signatures := by
    unfold cmdSig; rw [if_pos (by decide)]
  rw [this]
  rcases signatureOf_cases x Tables.signatures with h | ⟨e, he, h⟩
  · rw [h]; left; decide
  · rw [h]; right; exact key e he

/-- `forward_until` stops at the first boundary where the marker starts -/
theorem skipBody_noEarly (mk : Str) (e5 r'' : List Tok) (hfl : flat e5 = mk) :
    ∀ (ts b : List Tok), skipBody mk ts = (b, e5 ++ r'') → noEarly mk e5 b = true := by
  intro ts
  induction ts with
  | nil => intro b h; simp [skipBody] at h; rw [h.1]; rfl
  | cons t r ih =>
    intro b h
    unfold skipBody at h
    by_cases hs : bufStartsWith mk (t :: r) = true
    · rw [if_pos hs] at h
      simp only [Prod.mk.injEq] at h
      rw [← h.1]; rfl
    · rw [if_neg hs] at h
      cases hb : skipBody mk r with
      | mk b' rest' =>
        rw [hb] at h
        simp only [Prod.mk.injEq] at h
        obtain ⟨rfl, rfl⟩ := h
        have hsplit := skipBody_split _ _ _ _ hb
        simp only [noEarly, Bool.and_eq_true, Bool.not_eq_true']
        refine ⟨?_, ih b' hb⟩
        have hs' : bufStartsWith mk (t :: r) = false := by simpa using hs
        rw [hsplit] at hs'
        rw [show t :: (b' ++ (e5 ++ r'')) = (t :: b' ++ e5) ++ r'' by simp] at hs'
        rw [bufStartsWith_ext _ _ _ (by
          rw [show t :: b' ++ e5 = (t :: b') ++ e5 by simp, flat_append, List.length_append, hfl]
          omega)] at hs'
        exact hs'

end TexSoup.Gram
