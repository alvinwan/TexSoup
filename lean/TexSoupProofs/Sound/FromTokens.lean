import TexSoupProofs.Sound.Top
import TexSoupProofs.Properties.TokHyp
import TexSoupProofs.Complete.Canon
/-!
# The token hypotheses of soundness hold for tokenizer output; plain environment names
-/
namespace TexSoup.Gram
open TexSoup

/-- `\end{name}` at a token boundary: five tokens. -/
theorem tokenize_skipFive {s : Str} {ts : List Tok} (hs : NoIgnored s)
    (h : tokenize s = some ts) {name : Str} (hpl : PlainEnvName name) (pre rest : List Tok)
    (hsplit : ts = pre ++ rest) (hb : bufStartsWith (endMarker name) rest = true) :
    ∃ e5 r', rest = e5 ++ r' ∧ e5.length = 5 ∧ flat e5 = endMarker name := by
  subst hsplit
  obtain ⟨f', pt', st', hl, hno⟩ := tokLoop_split h hs
  have hflat : flat rest = st'.rest := ((tokLoop_chain _ _ _ hl).erased).eq_of_no_ignored hno
  obtain ⟨u, hu⟩ := isPrefix_iff.1 hb
  have hrest : st'.rest = endMarker name ++ (u ++ flat (rest.drop (endMarker name).length)) := by
    rw [← hflat, ← List.append_assoc, ← hu, ← flat_append, List.take_append_drop]
  obtain ⟨t1, t2, t3, t4, t5, ts', rfl, e1, _, e2, _, e3, _, e4, _, e5, _⟩ :=
    tokLoop_endMarker hl hrest hpl
  exact ⟨[t1, t2, t3, t4, t5], ts', rfl, rfl, by simp [flat, e1, e2, e3, e4, e5, endMarker, strEnd]⟩

/-- Environment names after `\begin` / `\end` are `{`, one text token, `}` (stated on the reader,
like `C08.EnvNamesPlain`; the certificate reason `env-name-several-tokens` is its negation). -/
def EnvNamesSimple (ts : List Tok) : Prop :=
  ∀ pre esc n r, ts = pre ++ esc :: n :: r → esc.cat = .Escape →
    ∀ g tol mode a0 as rest,
      ((n.text = sBegin ∧ readArgs g (-1) (-1) tol mode r = .ok (a0 :: as, rest)) ∨
       (n.text = sEnd ∧ readArgs g 1 0 tol mode r = .ok (a0 :: as, rest))) →
      ∃ s p q, a0 = .group .brace [.text s p] q ∧ 0 ≤ q

def NoTrailingEscape (ts : List Tok) : Prop := ∀ pre esc, ts = pre ++ [esc] → esc.cat ≠ .Escape

/-- The token hypotheses of the soundness theorem hold for tokenizer output, given the two
that talk about the document. -/
theorem shyp_of_tokenize {s : Str} {ts : List Tok} {skip0 : List Str}
    (hs : ∀ c ∈ s, isIgnored (catOf c) = false) (h : tokenize s = some ts)
    (hskip : ∀ n, memStr n skip0 = true → PlainEnvName n)
    (henv : EnvNamesSimple ts) (hesc : NoTrailingEscape ts) : SHyp skip0 ts where
  escFollowed := hesc
  escOK := tokens_escOK hs h
  envNames := henv
  skipFive := fun name hn pre rest hsplit hb => tokenize_skipFive hs h (hskip name hn) pre rest hsplit hb

/-- every `{name` after `\begin` is its own `strip()` (finding F4b excluded, on the tokens) -/
def BeginPlain (ts : List Tok) : Prop :=
  ∀ pre esc bg sp o nt r, ts = pre ++ esc :: bg :: (sp ++ o :: nt :: r) → esc.cat = .Escape →
    bg.text = sBegin → (∀ x ∈ sp, x.cat = .MergedSpacer) → o.cat = .GroupBegin → strip nt.text = nt.text

theorem BeginPlain.right {a b : List Tok} (h : BeginPlain (a ++ b)) : BeginPlain b :=
  fun pre esc bg sp o nt r hl => h (a ++ pre) esc bg sp o nt r (by rw [hl, List.append_assoc])

theorem BeginPlain.left {a b : List Tok} (h : BeginPlain (a ++ b)) : BeginPlain a :=
  fun pre esc bg sp o nt r hl => h pre esc bg sp o nt (r ++ b) (by rw [hl]; simp)

theorem BeginPlain.tail {t : Tok} {l : List Tok} (h : BeginPlain (t :: l)) : BeginPlain l :=
  BeginPlain.right (a := [t]) h

theorem nameArg_plain {nm : NameArg} {esc bg : Tok} {X : List Tok} (hok : nm.ok = true)
    (h : BeginPlain (esc :: bg :: (nm.toks ++ X))) (hesc : esc.cat = .Escape) (hbg : bg.text = sBegin) :
    strip nm.nt.text = nm.nt.text := by
  simp only [NameArg.ok, Bool.and_eq_true, beq_iff_eq] at hok
  refine h [] esc bg nm.sp.toList nm.o nm.nt (nm.c :: X) (by simp [NameArg.toks]) hesc hbg ?_ hok.1.1.1.2
  intro x hx
  cases hsp : nm.sp with
  | none => rw [hsp] at hx; cases hx
  | some s =>
    rw [hsp] at hx
    simp only [Option.toList, List.mem_singleton] at hx
    subst hx
    have := hok.1.1.1.1
    rw [hsp] at this
    simpa [spOK] using this

theorem envPlain_of_tokens_all :
    (∀ (e : Elem) (skip : List Str) (m : Mode) (nx : List Tok),
      WF skip m nx e = true → BeginPlain (toks e) → envNamesPlain e = true) ∧
    (∀ (a : Arg) (m : Mode) (k : GKind),
      WFarg m k a = true → BeginPlain (toksArg a) → envNamesPlainArg a = true) ∧
    (∀ (es : List Elem) (skip : List Str) (m : Mode) (ctx : Ctx) (nx : List Tok),
      WFs skip m ctx nx es = true → BeginPlain (toksS es) → envNamesPlainS es = true) ∧
    (∀ (as : List Arg) (m : Mode) (k : GKind),
      WFa m k as = true → BeginPlain (toksA as) → envNamesPlainA as = true) := by
  apply induct
  · intros; simp [envNamesPlain]
  · intro o b c ib skip m nx hwf hp
    simp only [toks] at hp
    simp only [envNamesPlain]
    exact ib _ _ _ _ (WF_group.1 hwf).2.2 hp.tail.left
  · intro k o b c ib skip m nx hwf hp
    simp only [toks] at hp
    simp only [envNamesPlain]
    exact ib _ _ _ _ (WF_math.1 hwf).2.2 hp.tail.left
  · intro e n a1 a2 a3 a4 i1 i2 i3 i4 skip m nx hwf hp
    obtain ⟨-, w1, w2, w3, w4, -⟩ := WF_cmd.1 hwf
    simp only [toks] at hp
    have hp := hp.tail.tail
    simp only [envNamesPlain, Bool.and_eq_true]
    exact ⟨⟨⟨i1 _ _ w1 hp.left, i2 _ _ w2 hp.right.left⟩, i3 _ _ w3 hp.right.right.left⟩,
      i4 _ _ w4 hp.right.right.right⟩
  · intro e n a1 a2 a3 a4 b i1 i2 i3 i4 ib skip m nx hwf hp
    obtain ⟨-, w1, w2, w3, w4, -, hwb, -⟩ := WF_item.1 hwf
    simp only [toks] at hp
    have hp := hp.tail.tail
    simp only [envNamesPlain, Bool.and_eq_true]
    exact ⟨⟨⟨⟨i1 _ _ w1 hp.left, i2 _ _ w2 hp.right.left⟩, i3 _ _ w3 hp.right.right.left⟩,
      i4 _ _ w4 hp.right.right.right.left⟩, ib _ _ _ _ hwb hp.right.right.right.right⟩
  · intro e bg nm a2 a3 a4 b e2 en nm2 i2 i3 i4 ib skip m nx hwf hp
    obtain ⟨⟨hesc, hbg, -⟩, hnm, w2, w3, w4, -, -, hwb, -⟩ := WF_env.1 hwf
    simp only [toks] at hp
    have hr := hp.tail.tail.right
    simp only [envNamesPlain, Bool.and_eq_true, beq_iff_eq]
    exact ⟨⟨⟨⟨nameArg_plain hnm hp hesc hbg, i2 _ _ w2 hr.left⟩, i3 _ _ w3 hr.right.left⟩,
      i4 _ _ w4 hr.right.right.left⟩, ib _ _ _ _ hwb hr.right.right.right.left⟩
  · intro e bg nm a2 a3 a4 vb e5 i2 i3 i4 skip m nx hwf hp
    obtain ⟨⟨hesc, hbg, -⟩, hnm, w2, w3, w4, -⟩ := WF_venv.1 hwf
    simp only [toks] at hp
    have hr := hp.tail.tail.right
    simp only [envNamesPlain, Bool.and_eq_true, beq_iff_eq]
    exact ⟨⟨⟨nameArg_plain hnm hp hesc hbg, i2 _ _ w2 hr.left⟩, i3 _ _ w3 hr.right.left⟩,
      i4 _ _ w4 hr.right.right.left⟩
  · intro sp o b c ib m k hwf hp
    obtain ⟨_, _, _, hwb⟩ := WFarg_unfold hwf
    simp only [toksArg] at hp
    simp only [envNamesPlainArg]
    exact ib _ _ _ _ hwb hp.right.tail.left
  · intros; simp [envNamesPlainS]
  · intro e es ie ies _ skip m ctx nx hwf hp
    obtain ⟨h1, _, h3, _⟩ := WFs_cons hwf
    simp only [toksS_cons] at hp
    simp only [envNamesPlainS, Bool.and_eq_true]
    exact ⟨ie _ _ _ h1 hp.left, ies _ _ _ _ h3 hp.right⟩
  · intros; simp [envNamesPlainA]
  · intro a as ia ias m k hwf hp
    obtain ⟨h1, h2⟩ := WFa_cons hwf
    simp only [toksA_cons] at hp
    simp only [envNamesPlainA, Bool.and_eq_true]
    exact ⟨ia _ _ h1 hp.left, ias _ _ h2 hp.right⟩

theorem envPlain_of_tokens : ∀ (e : Elem) (skip : List Str) (m : Mode) (nx : List Tok),
    WF skip m nx e = true → BeginPlain (toks e) → envNamesPlain e = true :=
  envPlain_of_tokens_all.1
theorem envPlainS_of_tokens : ∀ (es : List Elem) (skip : List Str) (m : Mode) (ctx : Ctx) (nx : List Tok),
    WFs skip m ctx nx es = true → BeginPlain (toksS es) → envNamesPlainS es = true :=
  envPlain_of_tokens_all.2.2.1
theorem envPlainArg_of_tokens : ∀ (a : Arg) (m : Mode) (k : GKind),
    WFarg m k a = true → BeginPlain (toksArg a) → envNamesPlainArg a = true :=
  envPlain_of_tokens_all.2.1
theorem envPlainA_of_tokens : ∀ (as : List Arg) (m : Mode) (k : GKind),
    WFa m k as = true → BeginPlain (toksA as) → envNamesPlainA as = true :=
  envPlain_of_tokens_all.2.2.2

end TexSoup.Gram
