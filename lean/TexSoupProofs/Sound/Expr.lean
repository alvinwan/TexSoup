import TexSoupProofs.Sound.ExprHelp
/-!
# Soundness of `read_expr`: one construct of the grammar for each branch
-/
namespace TexSoup.Gram
open TexSoup

section
variable {skip0 : List Str}

theorem sd_expr_math {skip mode ts rest k e} {c : Tok} (hk : mkindOfBegin c.cat = some k)
    (i : SdMathEnv skip0 k c.pos ts e rest) :
    SdExpr skip0 skip mode (c :: ts) e rest := by
  intro hy _ hrep
  obtain ⟨b, cl, htk, rfl, hcl, hwf⟩ := i hy.tail (by
    intro body hb
    subst hb
    simpa [rep] using hrep)
  exact ⟨.math k c b cl, by simp [toks, htk], by simp [tree], WF_math.2 ⟨hk, hcl, hwf⟩⟩

theorem sd_expr_group {skip mode ts rest e} {c : Tok}
    (hg : (c.cat == TC.GroupBegin) = true) (i : SdArg skip0 .brace c.pos .nonMath ts e rest) :
    SdExpr skip0 skip mode (c :: ts) e rest := by
  intro hy _ hrep
  obtain ⟨b, cl, htk, rfl, hcl, hwf⟩ := i hy.tail (by
    intro body hb
    subst hb
    simpa [rep] using hrep)
  exact ⟨.group c b cl, by simp [toks, htk], by simp [tree], WF_group.2 ⟨by simpa using hg, hcl, hwf⟩⟩

theorem sd_expr_text {skip mode ts} {c : Tok}
    (hk : mkindOfBegin c.cat = none) (hesc : ¬ (c.cat == TC.Escape) = true)
    (hg : ¬ (c.cat == TC.GroupBegin) = true) :
    SdExpr skip0 skip mode (c :: ts) (.text c.text c.pos) ts := by
  intro _ _ _
  refine ⟨.leaf c, by simp [toks], by simp [tree], ?_⟩
  simp only [WF, leafTok, Bool.and_eq_true, Option.isNone_iff_eq_none, bne_iff_ne, ne_eq]
  exact ⟨⟨hk, by simpa using hesc⟩, by simpa using hg⟩

/-- What the rules of `read_expr` for a backslash share: the name token follows and is its own
`strip()`. -/
theorem sd_command_name {tol mode ts ts1} {f : Nat} {c : Tok} {na : Tok × List Expr}
    (hy : SHyp skip0 (c :: ts)) (hesc : c.cat = .Escape)
    (hc : readCommand f (-1) (-1) tol mode ts = .ok (na, ts1)) :
    ts ≠ [] ∧ strip na.1.text = na.1.text ∧ SHyp skip0 ts1 := by
  have hne : ts ≠ [] := fun he => by subst he; exact hy.escFollowed [] c rfl hesc
  obtain ⟨n0, r0, rfl⟩ := List.exists_cons_of_ne_nil hne
  refine ⟨hne, ?_, hy.tail.ofSuf (readCommand_suf hc)⟩
  rw [readCommand_head hc]
  exact hy.escOK [] c n0 r0 rfl hesc

theorem sd_expr_cmd {skip tol mode ts ts1} {f : Nat} {c : Tok} {na : Tok × List Expr}
    (hesc : (c.cat == TC.Escape) = true)
    (hc : readCommand f (-1) (-1) tol mode ts = .ok (na, ts1))
    (ic : SdCommand skip0 (-1) (-1) mode ts na.1 na.2 ts1) (hitem : ¬ (na.1.text == sItem) = true)
    (hb : ¬ (na.1.text == sBegin && mode != Mode.special) = true) :
    SdExpr skip0 skip mode (c :: ts) (.cmd (strip na.1.text) na.2 [] c.pos) ts1 := by
  intro hy _ hrep
  have hE : c.cat = .Escape := by simpa using hesc
  obtain ⟨hne, hstrip, -⟩ := sd_command_name hy hE hc
  simp only [rep, hstrip, Bool.and_eq_true, repL_nil, and_true] at hrep
  obtain ⟨r, a1, a2, a3, a4, rfl, htk, htr, w1, w2, w3, w4, hrun⟩ :=
    ic hy.tail hne (cmdSig_signOK _) hrep.2 hrep.1
  refine ⟨.cmd c na.1 a1 a2 a3 a4, ?_, ?_, ?_⟩
  · simp only [toks, List.cons_append, List.append_assoc]
    rw [htk]
  · simp only [tree, htr, hstrip]
  · refine WF_cmd.2 ⟨⟨hE, by simpa using hitem, ?_⟩, w1, w2, w3, w4, by rw [runOK_win]; exact hrun⟩
    simp only [Bool.and_eq_true, beq_iff_eq, bne_iff_ne, ne_eq, not_and, Decidable.not_not] at hb
    exact Decidable.not_or_of_imp hb

theorem sd_expr_item {skip tol mode ts ts1 ts2 body} {f : Nat} {c : Tok} {na : Tok × List Expr}
    (hesc : (c.cat == TC.Escape) = true)
    (hc : readCommand f (-1) (-1) tol mode ts = .ok (na, ts1))
    (ic : SdCommand skip0 (-1) (-1) mode ts na.1 na.2 ts1) (hitem : (na.1.text == sItem) = true)
    (hm : ¬ (mode == Mode.math) = true) (ii : SdItem skip0 ts1 body ts2) :
    SdExpr skip0 skip mode (c :: ts) (.cmd (strip na.1.text) na.2 body c.pos) ts2 := by
  intro hy _ hrep
  have hE : c.cat = .Escape := by simpa using hesc
  obtain ⟨hne, hstrip, hy1⟩ := sd_command_name hy hE hc
  simp only [rep, hstrip, Bool.and_eq_true] at hrep
  obtain ⟨⟨hsh, hra⟩, hrb⟩ := hrep
  obtain ⟨r, a1, a2, a3, a4, rfl, htk, htr, w1, w2, w3, w4, hrun⟩ :=
    ic hy.tail hne (cmdSig_signOK _) hra hsh
  obtain ⟨b, htk2, htr2, hwfs, hstop⟩ := ii hy1 hrb
  refine ⟨.item c na.1 a1 a2 a3 a4 b, ?_, ?_, ?_⟩
  · simp only [toks, List.cons_append, List.append_assoc]
    rw [htk2, htk]
  · simp only [tree, htr, htr2, hstrip]
  · refine WF_item.2 ⟨⟨hE, by simpa using hitem, by simpa using hm⟩, w1, w2, w3, w4, ?_, hwfs,
      by rw [itemStop_win]; exact hstop⟩
    rw [← win_append, runOK_win, htk2]; exact hrun

/-- What `\begin` has read: the group with the name and, once the other arguments are known to be
representable, the run behind it. -/
theorem sd_begin_run {tol mode ts ts1 a0 as} {f : Nat} {c : Tok} {na : Tok × List Expr}
    (hy : SHyp skip0 (c :: ts))
    (hesc : c.cat = .Escape) (hc : readCommand f (-1) (-1) tol mode ts = .ok (na, ts1))
    (ic : SdCommand skip0 (-1) (-1) mode ts na.1 na.2 ts1)
    (hb : (na.1.text == sBegin && mode != Mode.special) = true) (hargs : na.2 = a0 :: as) :
    na.1.text = sBegin ∧ mode ≠ .special ∧ SHyp skip0 ts1 ∧ ∃ s, a0.string = s ∧
    (repA mode as = true →
      ∃ sp o t cc a2' a3 a4, t.text = s ∧
        as = treesA .brace a2' ++ (treesA .bracket a3 ++ treesA .brace a4) ∧
        (⟨sp, o, t, cc⟩ : NameArg).ok = true ∧
        na.1 :: ((⟨sp, o, t, cc⟩ : NameArg).toks ++ (toksA a2' ++ (toksA a3 ++ (toksA a4 ++ ts1)))) = ts ∧
        WFa mode .brace a2' = true ∧ WFa mode .bracket a3 = true ∧ WFa mode .brace a4 = true ∧
        runOK (cmdSig (-1) (-1) na.1.text) [] ((⟨sp, o, t, cc⟩ : NameArg).toArg :: a2') a3 a4 ts1 = true) := by
  simp only [Bool.and_eq_true, beq_iff_eq, bne_iff_ne, ne_eq] at hb
  obtain ⟨hnb, hms⟩ := hb
  obtain ⟨hne, -, hy1⟩ := sd_command_name hy hesc hc
  obtain ⟨n, args⟩ := na
  simp only at hnb hargs ic
  subst hargs
  obtain ⟨r1, g1, rfl, hargs⟩ := readCommand_named hc (.inl hnb)
  obtain ⟨s, p, q, rfl, hq⟩ :=
    hy.envNames [] c n r1 rfl hesc g1 tol mode a0 as ts1 (.inl ⟨hnb, hargs⟩)
  have hcm : cmdMode n.text mode = mode := by rw [hnb]; exact cmdMode_begin mode
  have hsg : cmdSig (-1) (-1) n.text = (-1, -1) := by rw [hnb]; exact cmdSig_begin
  refine ⟨hnb, hms, hy1, s, string_group_text s p q, fun hra => ?_⟩
  obtain ⟨r, a1, a2, a3, a4, hr, htk, htr, w1, w2, w3, w4, hrun⟩ := ic hy.tail hne (cmdSig_signOK _)
    (by rw [hcm]; simp [repA, repL, rep, hq, hra]) (by rw [hsg]; rfl)
  cases hr
  rw [hcm] at w1 w2 w3 w4
  obtain ⟨sp, o, t, cc, a2', rfl, rfl, hts, has, hok⟩ := name_run_shape htr hrun w2
  obtain ⟨_, w2'⟩ := WFa_cons w2
  refine ⟨sp, o, t, cc, a2', a3, a4, hts, has, hok, ?_, w2', w3, w4, hrun⟩
  simpa [NameArg.toks, toksArg, toks] using htk

theorem sd_expr_skipEnv {skip tol mode ts ts1 rest a0 e as} {f : Nat} {c : Tok}
    {na : Tok × List Expr}
    (hesc : (c.cat == TC.Escape) = true)
    (hc : readCommand f (-1) (-1) tol mode ts = .ok (na, ts1))
    (ic : SdCommand skip0 (-1) (-1) mode ts na.1 na.2 ts1)
    (hb : (na.1.text == sBegin && mode != Mode.special) = true) (hargs : na.2 = a0 :: as)
    (hskip : memStr (strip a0.string) skip = true)
    (h : readSkipEnv (strip a0.string) as c.pos ts1 = .ok (e, rest)) :
    SdExpr skip0 skip mode (c :: ts) e rest := by
  intro hy hsub hrep
  have hE : c.cat = .Escape := by simpa using hesc
  obtain ⟨hnb, hms, hy1, s, rfl, run⟩ := sd_begin_run hy hE hc ic hb hargs
  have hcm : cmdMode na.1.text mode = mode := by rw [hnb]; exact cmdMode_begin mode
  unfold readSkipEnv at h
  cases hbd : skipBody (endMarker (strip a0.string)) ts1 with
  | mk vb r1 =>
    rw [hbd] at h
    simp only at h
    by_cases hs : bufStartsWith (endMarker (strip a0.string)) r1 = true
    · rw [if_pos hs] at h
      simp only [Except.ok.injEq, Prod.mk.injEq] at h
      obtain ⟨rfl, rfl⟩ := h
      have hsplit := skipBody_split _ _ _ _ hbd
      obtain ⟨e5, r'', rfl, h5, hfl⟩ := hy1.skipFive _ (hsub _ hskip) vb r1 hsplit hs
      simp only [rep, Bool.and_eq_true] at hrep
      obtain ⟨sp, o, t, cc, a2', a3, a4, hts, has, hok, htk, w2, w3, w4, hrun⟩ := run hrep.1
      refine ⟨.venv c na.1 ⟨sp, o, t, cc⟩ a2' a3 a4 vb e5, ?_, ?_, ?_⟩
      · simp only [toks, List.cons_append, List.append_assoc]
        rw [List.drop_left' h5, ← hsplit, htk]
      · simp only [tree, hts, has]
        rw [← headPos_raw_five vb e5 r'' h5, ← hsplit]
        rfl
      · rw [WF_venv, hcm, hts]
        refine ⟨⟨hE, hnb, hms⟩, hok, w2, w3, w4, ?_, hskip, ⟨h5, hfl⟩,
          skipBody_noEarly _ e5 r'' hfl ts1 vb hbd⟩
        rw [← win_raw_five vb e5 r'' h5, runOK_win, ← hsplit]; exact hrun
    · rw [if_neg hs] at h; cases h

theorem sd_expr_env {skip tol mode ts ts1 rest a0 e as} {f : Nat} {c : Tok} {na : Tok × List Expr}
    (hesc : (c.cat == TC.Escape) = true)
    (hc : readCommand f (-1) (-1) tol mode ts = .ok (na, ts1))
    (ic : SdCommand skip0 (-1) (-1) mode ts na.1 na.2 ts1)
    (hb : (na.1.text == sBegin && mode != Mode.special) = true) (hargs : na.2 = a0 :: as)
    (hskip : ¬ memStr (strip a0.string) skip = true)
    (ie : SdEnv skip0 (strip a0.string) as c.pos skip (envMode (strip a0.string) mode) ts1 e rest) :
    SdExpr skip0 skip mode (c :: ts) e rest := by
  intro hy hsub hrep
  have hE : c.cat = .Escape := by simpa using hesc
  obtain ⟨hnb, hms, hy1, s, rfl, run⟩ := sd_begin_run hy hE hc ic hb hargs
  have hcm : cmdMode na.1.text mode = mode := by rw [hnb]; exact cmdMode_begin mode
  have hmode : envMode (strip a0.string) mode ≠ .special := by
    unfold envMode
    split
    · decide
    · exact hms
  obtain ⟨b, esc2, en, nm2, htk5, rfl, hwfs, hesc2, hen, hnm2, hname⟩ := ie hy1 hsub hmode (by
    intro body hb'
    subst hb'
    simp only [rep, Bool.and_eq_true] at hrep
    exact hrep.2)
  simp only [rep, Bool.and_eq_true] at hrep
  obtain ⟨sp, o, t, cc, a2', a3, a4, hts, has, hok, htk, w2, w3, w4, hrun⟩ := run hrep.1
  refine ⟨.env c na.1 ⟨sp, o, t, cc⟩ a2' a3 a4 b esc2 en nm2, ?_, ?_, ?_⟩
  · simp only [toks, List.cons_append, List.append_assoc]
    rw [htk5, htk]
  · simp only [tree, hts, has]
  · have hw : win (toksS b ++ esc2 :: en :: (nm2.toks ++ rest)) = win (toksS b ++ [esc2, en]) := by
      rw [win_append, win_esc _ _ hesc2]
    rw [WF_env, hcm, hts]
    refine ⟨⟨hE, hnb, hms⟩, hok, w2, w3, w4, ?_, by simpa using hskip, hwfs, ⟨hesc2, hen⟩, hnm2, hname⟩
    rw [← hw, runOK_win, htk5]; exact hrun

end

end TexSoup.Gram
