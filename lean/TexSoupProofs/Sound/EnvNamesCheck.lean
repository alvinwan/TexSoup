import TexSoupProofs.Sound.FromTokens
/-!
# A decidable, token-level sufficient condition for `EnvNamesSimple`

After every `\begin` / `\end`: an optional spacer, `{`, one leaf token that is not `}`, `}`.
-/
namespace TexSoup.Gram
open TexSoup

def nameGroupB (r : List Tok) : Bool :=
  match (readSpacer r).2 with
  | o :: nt :: c :: _ => o.cat == .GroupBegin && isLeafTok nt && nt.cat != .GroupEnd && c.cat == .GroupEnd
  | _ => false

def envNamesShapeB : List Tok → Bool
  | esc :: n :: r =>
      (!(esc.cat == .Escape && (n.text == sBegin || n.text == sEnd)) || nameGroupB r) &&
        envNamesShapeB (n :: r)
  | _ => true

theorem envNamesShapeB_sound : ∀ ts, envNamesShapeB ts = true → ∀ pre esc n r, ts = pre ++ esc :: n :: r →
    esc.cat = .Escape → (n.text = sBegin ∨ n.text = sEnd) → nameGroupB r = true := by
  intro ts
  induction ts with
  | nil => intro _ pre esc n r h; cases pre <;> simp at h
  | cons t r ih =>
    intro hb pre esc n r' h hesc hn
    cases r with
    | nil =>
      cases pre with
      | nil => simp at h
      | cons p pre' => cases pre' <;> simp at h
    | cons t2 r2 =>
      simp only [envNamesShapeB, Bool.and_eq_true, Bool.or_eq_true, Bool.not_eq_true',
        Bool.and_eq_false_iff, beq_eq_false_iff_ne, ne_eq, Bool.or_eq_false_iff] at hb
      cases pre with
      | nil =>
        simp only [List.nil_append, List.cons.injEq] at h
        obtain ⟨rfl, rfl, rfl⟩ := h
        rcases hb.1 with h1 | h1
        · rcases h1 with h1 | h1
          · exact absurd hesc h1
          · rcases hn with hn | hn
            · exact absurd hn h1.1
            · exact absurd hn h1.2
        · exact h1
      | cons p pre' =>
        simp only [List.cons_append, List.cons.injEq] at h
        exact ih hb.2 pre' esc n r' h.2 hesc hn

theorem readArg_name {g : Nat} {tol : Bool} {mode : Mode} {o nt c : Tok} {r' : List Tok} {a0 : Expr}
    {ts' : List Tok} (h : readArg g .brace o.pos tol mode (nt :: c :: r') = .ok (a0, ts'))
    (hl : isLeafTok nt = true) (hne : nt.cat ≠ .GroupEnd) (hc : c.cat = .GroupEnd) :
    a0 = .group .brace [.text nt.text nt.pos] o.pos := by
  have h2 := group_of_leaves .brace o.pos tol mode [nt] c r' 0
    (by intro t ht; simp only [List.mem_singleton] at ht; subst ht
        exact ⟨hl, by simpa [GKind.tokEnd] using hne⟩)
    (by simp [GKind.tokEnd, hc])
  have := readArg_fuel_det h h2
  simp only [Prod.mk.injEq] at this
  rw [this.1]; rfl

theorem envNamesSimple_of_shape {ts : List Tok} (h : envNamesShapeB ts = true) : EnvNamesSimple ts := by
  intro pre esc n r he hesc g tol mode a0 as rest hcase
  have hng := envNamesShapeB_sound ts h pre esc n r he hesc
    (hcase.elim (fun h => .inl h.1) (fun h => .inr h.1))
  unfold nameGroupB at hng
  cases hs : (readSpacer r).2 with
  | nil => rw [hs] at hng; cases hng
  | cons o r1 =>
    cases r1 with
    | nil => rw [hs] at hng; cases hng
    | cons nt r2 =>
      cases r2 with
      | nil => rw [hs] at hng; cases hng
      | cons c r' =>
        rw [hs] at hng
        simp only [Bool.and_eq_true, beq_iff_eq, bne_iff_ne, ne_eq] at hng
        obtain ⟨⟨⟨ho, hl⟩, hne⟩, hc⟩ := hng
        rcases hcase with ⟨_, hr⟩ | ⟨_, hr⟩
        · obtain ⟨o', r3, k, g', ts', hs', hk, ha⟩ := readArgs_first hr
          rw [hs] at hs'
          simp only [List.cons.injEq] at hs'
          obtain ⟨rfl, rfl⟩ := hs'
          rw [ho] at hk
          simp only [gkindOfBegin, Option.some.injEq] at hk
          subst hk
          exact ⟨nt.text, nt.pos, o.pos, readArg_name ha hl hne hc, by omega⟩
        · obtain ⟨g', _, _, ts', -, harg, ha⟩ := readArgs10_group hr hs ho
          cases harg
          exact ⟨nt.text, nt.pos, o.pos, readArg_name ha hl hne hc, by omega⟩

end TexSoup.Gram
