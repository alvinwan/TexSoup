import TexSoupProofs.Sound.ArgsRun
/-!
# Soundness of `read_args` and `read_command`: the four phases give a run that satisfies `runOK`
-/
namespace TexSoup.Gram
open TexSoup

section
variable {skip0 : List Str}

theorem sd_args_none {nreq nopt mode ts}
    (h0 : (nreq == 0 && nopt == 0) = true) : SdArgs skip0 nreq nopt mode ts [] ts := by
  simp only [Bool.and_eq_true, beq_iff_eq] at h0
  obtain ⟨rfl, rfl⟩ := h0
  exact fun _ _ _ _ => ⟨[], [], [], [], by simp, by simp, by simp [WFa], by simp [WFa], by simp [WFa],
    by simp [WFa], by simp [runOK, tight]⟩

/-- The four phases of `read_args` give a run that satisfies `runOK`. -/
theorem sd_args_run {nreq nopt mode ts ts1 ts2 ts3 ts4} {an1 an2 an3 an4 : List Expr × Int}
    (i1 : SdArgOpt skip0 nopt mode ts an1.1 an1.2 ts1)
    (i2 : SdArgReq skip0 nreq mode ts1 an2.1 an2.2 ts2)
    (p3 : nextIs .BracketBegin ts2 = true ∧ SdArgOpt skip0 an1.2 mode ts2 an3.1 an3.2 ts3 ∨
      ¬ nextIs .BracketBegin ts2 = true ∧ an3 = ([], an1.2) ∧ ts3 = ts2)
    (p4 : nextIs .GroupBegin ts3 = true ∧ SdArgReq skip0 an2.2 mode ts3 an4.1 an4.2 ts4 ∨
      ¬ nextIs .GroupBegin ts3 = true ∧ an4 = ([], an2.2) ∧ ts4 = ts3) :
    SdArgs skip0 nreq nopt mode ts (an1.1 ++ (an2.1 ++ (an3.1 ++ an4.1))) ts4 := by
  intro hy hsign hrep hshape
  simp only [repA_append, Bool.and_eq_true] at hrep
  obtain ⟨r1, r2, r3, r4⟩ := hrep
  obtain ⟨a1, k1, t1, w1, e1, s1, z1, p1⟩ := i1 hy r1
  have hy1 : SHyp skip0 ts1 := hy.after k1
  obtain ⟨a2, k2, t2, w2, e2, s2, z2, p2⟩ := i2 hy1 r2
  have hy2 : SHyp skip0 ts2 := hy1.after k2
  obtain ⟨a3, k3, t3, w3, ti3, e3, n3, m3, p3⟩ := sd_args_phase (k := .bracket) p3
    (fun h => h.imp_right (nextIs_false_of_afterSp (by decide))) hy2 r3
  obtain ⟨a4, k4, t4, w4, ti4, e4, n4, m4, -⟩ := sd_args_phase (k := .brace) p4
    (fun h => h.imp_right fun h => h.elim (fun h => nextIs_false_of_afterSp (by decide) h.2)
      fun h => nextIs_false_of_afterSp_nil (by decide) h.2) (hy2.after k3) r4
  simp only [GKind.tokBegin] at n3 m3 n4 m4
  obtain ⟨g1, c1⟩ := an1
  obtain ⟨g2, c2⟩ := an2
  obtain ⟨g3, c3⟩ := an3
  obtain ⟨g4, c4⟩ := an4
  simp only at *
  refine ⟨a1, a2, a3, a4, ?_, ?_, w1, w2, w3, w4, ?_⟩
  · rw [k4, k3, k2, k1]
  · rw [t1, t2, t3, t4]
  have a2nil : a2 = [] → ts2 = ts1 := by
    intro he; subst he; simpa using k2
  have clash : ∀ {c : TC} {l : List Tok}, c ≠ TC.MergedSpacer → nextIs c l = true →
      (hdCat (afterSp l) != some c) = true → False := by
    intro c l hc hn hs
    rw [nextIs_true_afterSp hc hn] at hs
    simp at hs
  rcases hsign with ⟨hn1, hn2⟩ | ⟨hp1, hp2⟩
  · -- open signature: the counts never reach zero
    simp only at hn1 hn2
    have hc1 : c1 ≠ 0 := by omega
    have hc2 : c2 ≠ 0 := by omega
    have stop1 : (hdCat (afterSp ts1) != some TC.BracketBegin) = true := s1.resolve_left hc1
    have stop2 : (hdCat (afterSp ts2) != some TC.GroupBegin) = true := by
      rcases s2 with h | h | h
      · omega
      · exact h.2
      · omega
    unfold runOK
    rw [if_pos (by simp [hn1, hn2])]
    simp only [ti3, ti4, Bool.true_and]
    cases a2 with
    | nil =>
      have e21 := a2nil rfl
      cases a3 with
      | cons x xs =>
        exfalso
        have := (m3 (by simp)).1
        rw [e21] at this
        exact clash (by decide) this stop1
      | nil =>
        obtain ⟨e32, _⟩ := n3 rfl
        cases a4 with
        | cons y ys =>
          exfalso
          have := (m4 (by simp)).1
          rw [e32] at this
          exact clash (by decide) this stop2
        | nil =>
          obtain ⟨e43, _⟩ := n4 rfl
          rw [e43, e32]
          simp only [Bool.and_eq_true]
          exact ⟨by rw [e21]; exact stop1, stop2⟩
    | cons b bs =>
      cases a3 with
      | nil =>
        obtain ⟨e32, hnx⟩ := n3 rfl
        have hnx' : nextIs TC.BracketBegin ts2 = false := hnx.resolve_right hc1
        cases a4 with
        | cons y ys =>
          exfalso
          have := (m4 (by simp)).1
          rw [e32] at this
          exact clash (by decide) this stop2
        | nil =>
          obtain ⟨e43, _⟩ := n4 rfl
          rw [e43, e32]
          simp only [Bool.and_eq_true]
          exact ⟨hdCat_ne_of_nextIs_false hnx', stop2⟩
      | cons x xs =>
        obtain ⟨_, _, st3⟩ := m3 (by simp)
        have stop3 : (hdCat (afterSp ts3) != some TC.BracketBegin) = true :=
          st3.resolve_left (by simp only [List.length_cons] at e3; omega)
        cases a4 with
        | nil =>
          obtain ⟨e43, hnx⟩ := n4 rfl
          have hnx' : nextIs TC.GroupBegin ts3 = false := hnx.resolve_right hc2
          rw [e43]
          simp only [Bool.and_eq_true]
          exact ⟨stop3, hdCat_ne_of_nextIs_false hnx'⟩
        | cons y ys =>
          obtain ⟨_, _, st4⟩ := m4 (by simp)
          simp only [List.length_cons] at e4
          rcases st4 with h | h | h
          · omega
          · exact h.2
          · omega
  · -- fixed signature
    simp only at hp1 hp2
    have hc1 : 0 ≤ c1 := p1 hp2
    have hc2 : 0 ≤ c2 := p2 hp1
    have hc3 : 0 ≤ c3 := p3 hc1
    simp only [argShape] at hshape
    rw [if_neg (by simp; omega)] at hshape
    simp only [decide_eq_true_eq] at hshape
    rw [← t1, ← t2, ← t3, ← t4] at hshape
    simp only [List.countP_append, countP_treesA_bracket, countP_treesA_brace, Nat.zero_add] at hshape
    -- all required arguments were there, so the fourth phase reads nothing
    have hc2z : c2 = 0 := by
      rcases s2 with h | h | h
      · exact h
      · omega
      · exfalso
        -- cut off by the end of input: nothing follows, so the brace count is too small
        have hn3 : nextIs TC.BracketBegin ts2 = false := nextIs_false_of_afterSp_nil (by decide) h.2
        have ha3 : a3 = [] := by
          cases a3 with
          | nil => rfl
          | cons x xs => have := (m3 (by simp)).1; rw [hn3] at this; cases this
        subst ha3
        obtain ⟨e32, _⟩ := n3 rfl
        have hn4 : nextIs TC.GroupBegin ts3 = false := by
          rw [e32]; exact nextIs_false_of_afterSp_nil (by decide) h.2
        have ha4 : a4 = [] := by
          cases a4 with
          | nil => rfl
          | cons y ys => have := (m4 (by simp)).1; rw [hn4] at this; cases this
        subst ha4
        simp only [List.length_nil] at hshape
        omega
    have ha4 : a4 = [] := by
      cases a4 with
      | nil => rfl
      | cons y ys => exact absurd hc2z (m4 (by simp)).2.1
    subst ha4
    obtain ⟨e43, _⟩ := n4 rfl
    simp only [List.length_nil] at hshape
    have h32 : a3 = [] ∨ a2 ≠ [] := by
      cases a3 with
      | nil => left; rfl
      | cons x xs =>
        right
        intro he
        obtain ⟨hnx, hc1', _⟩ := m3 (by simp)
        rw [a2nil he] at hnx
        exact clash (by decide) hnx (s1.resolve_left hc1')
    unfold runOK
    rw [if_neg (by simp; omega), if_pos (by simp [hp1, hp2])]
    simp only [List.isEmpty_nil, Bool.true_and, Bool.and_eq_true, decide_eq_true_eq, Bool.or_eq_true,
      Bool.not_eq_true', List.isEmpty_eq_false_iff, List.isEmpty_iff, ti3]
    refine ⟨⟨⟨h32, by omega⟩, by omega⟩, ?_⟩
    rw [e43]
    by_cases hz : c3 = 0
    · left; omega
    · right
      cases a3 with
      | cons x xs =>
        exact (m3 (by simp)).2.2.resolve_left hz
      | nil =>
        obtain ⟨e32, hnx3⟩ := n3 rfl
        simp only [List.length_nil, Int.natCast_zero, Int.sub_zero] at e3
        simp only [if_true, Bool.and_eq_true, Bool.or_eq_true, Bool.not_eq_true',
          List.isEmpty_eq_false_iff]
        rw [e32]
        have hz1 : c1 ≠ 0 := by omega
        refine ⟨hdCat_ne_of_nextIs_false (hnx3.resolve_right hz1), ?_⟩
        cases a2 with
        | cons b bs => left; simp
        | nil =>
          right
          rw [a2nil rfl]
          exact s1.resolve_left hz1

end

end TexSoup.Gram
