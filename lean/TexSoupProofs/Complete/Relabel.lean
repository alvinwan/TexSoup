import TexSoupModel.GrammarOps
import TexSoupProofs.Complete.Args
/-!
# Relabelling the tokens of a document

`relabel p` rebuilds a document from its parts and changes of the tokens it is written with only
the leaves (`p.leaf`), the optional spacer in front of an argument group or a name group (`p.sp`),
the name token of a command (`p.name`) and the name token in the two name groups of an environment
(`p.envNt`). If these changes keep what the reader looks at (`Relabel.OK`), the relabelled document
is well-formed where the original is (`WF_relabel_all`). Squeezing a document, changing its
comments and renaming its commands and environments are relabellings.
-/
namespace TexSoup.Gram
open TexSoup

/-- All that the frame conditions see of a name token. -/
structure SameName (n n' : Tok) : Prop where
  cat : n'.cat = n.cat
  item : n'.text = sItem ↔ n.text = sItem
  isEnd : n'.text = sEnd ↔ n.text = sEnd
  isBegin : n'.text = sBegin ↔ n.text = sBegin
  sig : cmdSig (-1) (-1) n'.text = cmdSig (-1) (-1) n.text
  mode : ∀ m, cmdMode n'.text m = cmdMode n.text m

theorem SameName.refl (n : Tok) : SameName n n := ⟨rfl, .rfl, .rfl, .rfl, rfl, fun _ => rfl⟩

theorem SameName.stop {n n' : Tok} (s : SameName n n') : stopName n' = stopName n := by
  rw [Bool.eq_iff_iff]
  simp only [stopName, Bool.or_eq_true, beq_iff_eq, s.isEnd, s.item]

structure Relabel where
  leaf : Tok → Tok
  /-- the optional spacer in front of an argument group or a name group -/
  sp : Option Tok → Option Tok
  /-- the name token `n` of the command with the backslash `esc` -/
  name : (esc n : Tok) → Tok
  /-- the name token `t` in a name group of the environment with the backslash `esc` and the name
  token `nt` after `\begin` -/
  envNt : (esc nt t : Tok) → Tok

def Relabel.nameArg (p : Relabel) (f : Tok → Tok) (nm : NameArg) : NameArg :=
  { nm with sp := p.sp nm.sp, nt := f nm.nt }

mutual
def relabel (p : Relabel) : Elem → Elem
  | .leaf t => .leaf (p.leaf t)
  | .group o b c => .group o (relabelS p b) c
  | .math k o b c => .math k o (relabelS p b) c
  | .cmd e n a1 a2 a3 a4 =>
      .cmd e (p.name e n) (relabelA p a1) (relabelA p a2) (relabelA p a3) (relabelA p a4)
  | .item e n a1 a2 a3 a4 b =>
      .item e n (relabelA p a1) (relabelA p a2) (relabelA p a3) (relabelA p a4) (relabelS p b)
  | .env e bg nm a2 a3 a4 b e2 en nm2 =>
      .env e bg (p.nameArg (p.envNt e nm.nt) nm) (relabelA p a2) (relabelA p a3) (relabelA p a4)
        (relabelS p b) e2 en (p.nameArg (p.envNt e nm.nt) nm2)
  | .venv e bg nm a2 a3 a4 vb e5 =>
      .venv e bg (p.nameArg id nm) (relabelA p a2) (relabelA p a3) (relabelA p a4) vb e5
def relabelS (p : Relabel) : List Elem → List Elem
  | [] => []
  | e :: es => relabel p e :: relabelS p es
def relabelArg (p : Relabel) : Arg → Arg
  | .mk sp o b c => .mk (p.sp sp) o (relabelS p b) c
def relabelA (p : Relabel) : List Arg → List Arg
  | [] => []
  | a :: as => relabelArg p a :: relabelA p as
end

/-- The relabelling changes nothing the reader looks at, where the skip list `skip` is in force:
a leaf keeps its category; a spacer stays a spacer or goes; a command name keeps its role; the name
of an environment keeps the mode of the body, stays out of the skip list, and `\end{x}` still
closes `\begin{y}`. -/
structure Relabel.OK (p : Relabel) (skip : List Str) : Prop where
  leaf : ∀ t, (p.leaf t).cat = t.cat
  spOK : ∀ sp, spOK sp = true → spOK (p.sp sp) = true
  spNone : p.sp none = none
  name : ∀ esc n, SameName n (p.name esc n)
  envCat : ∀ esc nt t, (p.envNt esc nt t).cat = t.cat
  envMode : ∀ esc nt m, envMode (strip (p.envNt esc nt nt).text) m = envMode (strip nt.text) m
  envSkip : ∀ esc nt, memStr (strip nt.text) skip = false →
    memStr (strip (p.envNt esc nt nt).text) skip = false
  envEnd : ∀ esc nt t, t.text = strip nt.text → (p.envNt esc nt t).text = strip (p.envNt esc nt nt).text

variable {p : Relabel}

theorem Relabel.OK.nil {skip : List Str} (h : p.OK skip) : p.OK [] :=
  { h with envSkip := fun _ _ _ => rfl }

theorem Relabel.OK.nameArg {skip : List Str} (h : p.OK skip) {f : Tok → Tok} {nm : NameArg}
    (hf : (f nm.nt).cat = nm.nt.cat) (hok : nm.ok = true) : (p.nameArg f nm).ok = true := by
  simp only [NameArg.ok, Relabel.nameArg, leafTok, hf, Bool.and_eq_true] at hok ⊢
  exact ⟨⟨⟨⟨h.spOK _ hok.1.1.1.1, hok.1.1.1.2⟩, hok.1.1.2⟩, hok.1.2⟩, hok.2⟩

@[simp] theorem relabelS_nil : relabelS p [] = [] := rfl
@[simp] theorem relabelS_cons (e : Elem) (es : List Elem) :
    relabelS p (e :: es) = relabel p e :: relabelS p es := rfl
@[simp] theorem relabelA_nil : relabelA p [] = [] := rfl
@[simp] theorem relabelA_cons (a : Arg) (as : List Arg) :
    relabelA p (a :: as) = relabelArg p a :: relabelA p as := rfl

theorem relabelA_length (as : List Arg) : (relabelA p as).length = as.length := by
  induction as with
  | nil => rfl
  | cons a as ih => simp [ih]

theorem tight_relabelA (h : p.sp none = none) (as : List Arg) (ht : tight as = true) :
    tight (relabelA p as) = true := by
  cases as with
  | nil => rfl
  | cons a as =>
    cases a with
    | mk sp o b c =>
      simp only [tight, Option.isNone_iff_eq_none] at ht
      subst ht
      simp [relabelArg, tight, h]

theorem runOK_relabel (h : p.sp none = none) {sg : Int × Int} {a1 a2 a3 a4 : List Arg} {nx : List Tok}
    (hr : runOK sg a1 a2 a3 a4 nx = true) :
    runOK sg (relabelA p a1) (relabelA p a2) (relabelA p a3) (relabelA p a4) nx = true :=
  runOK_congr (relabelA_length a1) (relabelA_length a2) (relabelA_length a3) (relabelA_length a4)
    (tight_relabelA h a3) (tight_relabelA h a4) hr

/-- behind `\begin`: the name group counts as one brace group, whatever it contains -/
theorem runOK_relabel_env (h : p.sp none = none) {sg : Int × Int} {x y : Arg} {a2 a3 a4 : List Arg}
    {nx : List Tok} (hr : runOK sg [] (x :: a2) a3 a4 nx = true) :
    runOK sg [] (y :: relabelA p a2) (relabelA p a3) (relabelA p a4) nx = true :=
  runOK_congr (a2 := x :: a2) rfl (congrArg Nat.succ (relabelA_length a2)) (relabelA_length a3)
    (relabelA_length a4) (tight_relabelA h a3) (tight_relabelA h a4) hr

theorem firstTok_relabel {skip : List Str} (h : p.OK skip) (e : Elem) :
    (firstTok (relabel p e)).cat = (firstTok e).cat := by
  cases e with
  | leaf t => exact h.leaf t
  | _ => rfl

theorem startOK_relabel {skip : List Str} (h : p.OK skip) (ctx : Ctx) (e : Elem) :
    startOK ctx (relabel p e) = startOK ctx e := by
  refine startOK_congr (firstTok_relabel h e) fun s hs => ?_
  cases e with
  | cmd esc n a1 a2 a3 a4 =>
    have sn := h.name esc n
    simp only [relabel, nameText, Option.some_beq_some]
    rw [Bool.eq_iff_iff, beq_iff_eq, beq_iff_eq]
    rcases hs with rfl | rfl
    · exact sn.isEnd
    · exact sn.item
  | _ => rfl

theorem sameHead_relabel {skip0 : List Str} (h : p.OK skip0) {skip : List Str} {m : Mode}
    {nx : List Tok} {e : Elem} (hwf : WF skip m nx e = true) : SameHead e (relabel p e) := by
  refine .of_wf hwf (firstTok_relabel h e) (fun t ht => by rw [ht]; exact ⟨_, rfl, h.leaf t⟩)
    fun s hs => ?_
  cases e with
  | cmd esc n a1 a2 a3 a4 =>
    exact ⟨n, p.name esc n, _, _, rfl, rfl, (h.name esc n).cat, (h.name esc n).stop⟩
  | item esc n a1 a2 a3 a4 b | env esc n nm a2 a3 a4 b e2 en nm2 | venv esc n nm a2 a3 a4 vb e5 =>
    exact ⟨n, n, _, _, rfl, rfl, rfl, rfl⟩
  | _ => cases hs

theorem key3_relabelS {skip0 : List Str} (h : p.OK skip0) : ∀ (es : List Elem) {skip : List Str}
    {m : Mode} {ctx : Ctx} {nx0 : List Tok}, WFs skip m ctx nx0 es = true →
    ∀ {X X' : List Tok}, key3 X' = key3 X →
    key3 (win (toksS (relabelS p es) ++ X')) = key3 (win (toksS es ++ X)) :=
  SameHead.seq relabelS_nil relabelS_cons (sameHead_relabel h)

theorem noArgName_relabel {skip : List Str} (h : p.OK skip) (e : Elem) (n' : Str)
    (hn : noArgName (relabel p e) = some n') :
    ∃ n, noArgName e = some n ∧ ∀ m, cmdMode n' m = cmdMode n m := by
  cases e with
  | cmd esc name a1 a2 a3 a4 =>
    cases a1 <;> cases a2 <;> simp only [relabel, relabelA_nil, relabelA_cons, noArgName, reduceCtorEq] at hn
    exact ⟨name.text, rfl, fun m => Option.some.inj hn ▸ (h.name esc name).mode m⟩
  | _ => simp [relabel, noArgName] at hn

theorem nextGroup_relabel {skip : List Str} (h : p.OK skip) (es : List Elem) :
    nextGroup (relabelS p es) = (nextGroup es).map fun bc => (relabelS p bc.1, bc.2) := by
  cases es with
  | nil => simp [nextGroup]
  | cons e1 es1 =>
    cases e1 with
    | group o b c => simp [relabel, nextGroup]
    | leaf s =>
      cases es1 with
      | nil => simp [relabel, nextGroup]
      | cons e2 es2 =>
        cases e2 <;> simp [relabel, nextGroup, h.leaf]
    | _ => simp [relabel, nextGroup]

theorem WF_relabel_all :
    (∀ (e : Elem) (skip : List Str) (m : Mode) (nx nx' : List Tok),
      WF skip m nx e = true → p.OK skip → key3 nx' = key3 nx → WF skip m nx' (relabel p e) = true) ∧
    (∀ (a : Arg) (m : Mode) (k : GKind),
      WFarg m k a = true → ∀ {skip : List Str}, p.OK skip → WFarg m k (relabelArg p a) = true) ∧
    (∀ (es : List Elem) (skip : List Str) (m : Mode) (ctx : Ctx) (nx nx' : List Tok),
      WFs skip m ctx nx es = true → p.OK skip → key3 nx' = key3 nx →
      WFs skip m ctx nx' (relabelS p es) = true) ∧
    (∀ (as : List Arg) (m : Mode) (k : GKind),
      WFa m k as = true → ∀ {skip : List Str}, p.OK skip → WFa m k (relabelA p as) = true) := by
  apply induct
  · intro t skip m nx nx' h hp _
    simpa [relabel, WF, leafTok, hp.leaf] using h
  · intro o b c ib skip m nx nx' h hp _
    rw [relabel]
    rw [WF_group] at h ⊢
    exact ⟨h.1, h.2.1, ib _ _ _ _ _ h.2.2 hp.nil rfl⟩
  · intro k o b c ib skip m nx nx' h hp _
    rw [relabel]
    rw [WF_math] at h ⊢
    exact ⟨h.1, h.2.1, ib _ _ _ _ _ h.2.2 hp.nil rfl⟩
  · intro e n a1 a2 a3 a4 i1 i2 i3 i4 skip m nx nx' h hp hk
    have s := hp.name e n
    rw [relabel]
    rw [WF_cmd] at h ⊢
    simp only [ne_eq, s.item, s.isBegin, s.sig, s.mode]
    obtain ⟨h0, w1, w2, w3, w4, hrun⟩ := h
    refine ⟨h0, i1 _ _ w1 hp, i2 _ _ w2 hp, i3 _ _ w3 hp, i4 _ _ w4 hp, ?_⟩
    rw [runOK_key hk]
    exact runOK_relabel hp.spNone hrun
  · intro e n a1 a2 a3 a4 b i1 i2 i3 i4 ib skip m nx nx' h hp hk
    rw [relabel]
    rw [WF_item] at h ⊢
    obtain ⟨h0, w1, w2, w3, w4, hrun, hb, hstop⟩ := h
    refine ⟨h0, i1 _ _ w1 hp, i2 _ _ w2 hp, i3 _ _ w3 hp, i4 _ _ w4 hp, ?_, ib _ _ _ _ _ hb hp.nil hk,
      by rw [itemStop_key hk]; exact hstop⟩
    -- the run condition sees the relabelled body, and what follows it, only through `key3`
    rw [runOK_key (key3_relabelS hp b hb hk)]
    exact runOK_relabel hp.spNone hrun
  · intro e bg nm a2 a3 a4 b e2 en nm2 i2 i3 i4 ib skip m nx nx' h hp _
    rw [relabel]
    rw [WF_env] at h ⊢
    obtain ⟨h0, hnm, w2, w3, w4, hrun, hskip, hb, hend, hnm2, hname⟩ := h
    refine ⟨h0, hp.nameArg (hp.envCat _ _ _) hnm, i2 _ _ w2 hp, i3 _ _ w3 hp, i4 _ _ w4 hp, ?_,
      hp.envSkip e nm.nt hskip, by rw [Relabel.nameArg, hp.envMode]; exact ib _ _ _ _ _ hb hp rfl, hend,
      hp.nameArg (hp.envCat _ _ _) hnm2, hp.envEnd e nm.nt nm2.nt hname⟩
    rw [runOK_key (key3_relabelS hp b hb rfl)]
    exact runOK_relabel_env hp.spNone hrun
  · intro e bg nm a2 a3 a4 vb e5 i2 i3 i4 skip m nx nx' h hp _
    rw [relabel]
    rw [WF_venv] at h ⊢
    obtain ⟨h0, hnm, w2, w3, w4, hrun, hrest⟩ := h
    exact ⟨h0, hp.nameArg rfl hnm, i2 _ _ w2 hp, i3 _ _ w3 hp, i4 _ _ w4 hp,
      runOK_relabel_env hp.spNone hrun, hrest⟩
  · intro sp o b c ib m k h skip hp
    simp only [relabelArg, WFarg, Bool.and_eq_true] at h ⊢
    exact ⟨⟨⟨hp.spOK sp h.1.1.1, h.1.1.2⟩, h.1.2⟩, ib _ _ _ _ _ h.2 hp.nil rfl⟩
  · intros; simp
  · intro e es ie ies ig skip m ctx nx nx' h hp hk
    obtain ⟨h1, h2, h3, h4⟩ := WFs_cons h
    rw [relabelS_cons]
    exact WFs_cons_intro (ie _ _ _ _ h1 hp (key3_relabelS hp es h3 hk))
      (by rw [startOK_relabel hp]; exact h2) (ies _ _ _ _ _ h3 hp hk)
      (peekCond_map h4 (fun n' hn' => (noArgName_relabel hp e n' hn').imp fun n hn => ⟨hn.1, hn.2 m⟩)
        (nextGroup_relabel hp es) fun b c hg _ hb => ig b c hg _ _ _ _ _ hb hp.nil rfl)
  · intros; simp
  · intro a as ia ias m k h skip hp
    obtain ⟨h1, h2⟩ := WFa_cons h
    simp only [relabelA_cons, WFa, Bool.and_eq_true]
    exact ⟨ia _ _ h1 hp, ias _ _ h2 hp⟩

end TexSoup.Gram
