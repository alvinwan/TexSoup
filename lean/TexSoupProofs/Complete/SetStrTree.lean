import TexSoupProofs.Complete.SetStr
import TexSoupProofs.Complete.MapSel
import TexSoupProofs.Complete.RenameTree
/-!
# The tree of a re-stringed document

`tree (setStr r e) = mapSel (strSel qc qe) (strTop s np) (tree e)` for a selection on (name,
position) (`SetS.ofQ`): exactly the selected single-argument commands / text-only environments
get the one text leaf `s` (at position `np`), everything else is untouched.
-/
namespace TexSoup.Gram
open TexSoup

theorem treesA_setLeaf (k : GKind) (s : Str) (np : Nat) : ∀ as : List Arg,
    treesA k (as.map (Arg.setLeaf ⟨s, np, .Text⟩)) =
      (treesA k as).map fun x => x.setBody [.text s np]
  | [] => by simp
  | .mk sp o b c :: as => by
      simp [Arg.setLeaf, treeArg, tree, Expr.setBody, treesA_setLeaf k s np as]

theorem tree_not_text_of_not_leaf (e : Elem) (h : ∀ t, e ≠ .leaf t) : ∀ s p, tree e ≠ .text s p := by
  cases e <;> simp [tree] <;> exact absurd rfl (h _)

theorem oneLeaf_trees (b : List Elem) : isOneText (trees b) = oneLeaf b := by
  cases b with
  | nil => simp [oneLeaf, isOneText]
  | cons e1 es =>
    cases es with
    | cons e2 es2 => cases e1 <;> simp [oneLeaf, isOneText, tree]
    | nil => cases e1 <;> simp [oneLeaf, isOneText, tree]

@[simp] theorem ofQ_pc (qc qe : Str → Int → Bool) (s : Str) (np : Nat) (e n : Tok) :
    (SetS.ofQ qc qe s np).pc e n = qc n.text e.pos := rfl
@[simp] theorem ofQ_pe (qc qe : Str → Int → Bool) (s : Str) (np : Nat) (e n : Tok) :
    (SetS.ofQ qc qe s np).pe e n = qe n.text e.pos := rfl
@[simp] theorem ofQ_tk (qc qe : Str → Int → Bool) (s : Str) (np : Nat) :
    (SetS.ofQ qc qe s np).tk = ⟨s, np, .Text⟩ := rfl

theorem strSel_cmd (qc qe : Str → Int → Bool) (n : Str) (A B : List Expr) (p : Int) :
    strSel qc qe (.cmd n A B p) = (qc n p && A.length == 1) := rfl
theorem strSel_nenv (qc qe : Str → Int → Bool) (n : Str) (A B : List Expr) (p : Int) :
    strSel qc qe (.nenv n A B p) = (qe n p && A.isEmpty && isOneText B) := rfl

variable {qc qe : Str → Int → Bool} {s : Str} {np : Nat}

theorem tree_setStr_all :
    (∀ (e : Elem) (skip : List Str) (m : Mode) (nx : List Tok),
      WF skip m nx e = true → cmdNamesPlain e = true → envNamesPlain e = true → SQ qc qe skip →
      tree (setStr (SetS.ofQ qc qe s np) e) = mapSel (strSel qc qe) (strTop s np) (tree e)) ∧
    (∀ (a : Arg) (m : Mode) (k : GKind),
      WFarg m k a = true → cmdNamesPlainArg a = true → envNamesPlainArg a = true → SQ qc qe [] →
      ∀ gk, treeArg gk (setStrArg (SetS.ofQ qc qe s np) a) =
        mapSel (strSel qc qe) (strTop s np) (treeArg gk a)) ∧
    (∀ (es : List Elem) (skip : List Str) (m : Mode) (ctx : Ctx) (nx : List Tok),
      WFs skip m ctx nx es = true → cmdNamesPlainS es = true → envNamesPlainS es = true → SQ qc qe skip →
      trees (setStrS (SetS.ofQ qc qe s np) es) = mapSelL (strSel qc qe) (strTop s np) (trees es)) ∧
    (∀ (as : List Arg) (m : Mode) (k : GKind),
      WFa m k as = true → cmdNamesPlainA as = true → envNamesPlainA as = true → SQ qc qe [] →
      ∀ gk, treesA gk (setStrA (SetS.ofQ qc qe s np) as) =
        mapSelL (strSel qc qe) (strTop s np) (treesA gk as)) := by
  apply induct_sel
  · intro t; simp [setStr, tree, mapSel, strSel]
  · intro o b c ib; simp [setStr, tree, mapSel, strSel, ib]
  · intro k o b c ib; simp [setStr, tree, mapSel, strSel, ib]
  · intro e n a1 a2 a3 a4 hn i1 i2 i3 i4
    -- `strSel` counts the arguments in the tree, `setStr` in the four runs
    have hlen : (treesA .bracket a1 ++ (treesA .brace a2 ++ (treesA .bracket a3 ++ treesA .brace a4))).length
        = a1.length + a2.length + a3.length + a4.length := by
      simp [treesA_length]; omega
    simp only [setStr, ofQ_pc, ofQ_tk, tree]
    rw [mapSel_cmd, strSel_cmd, hn, hlen]
    split <;> rename_i hsel
    · simp only [hsel, ↓reduceIte, tree, strTop, treesA_setLeaf, List.map_append, hn]
    · simp only [hsel, Bool.false_eq_true, ↓reduceIte, tree, mapSelL_append, mapSelL_nil, i1, i2, i3, i4, hn]
  · intro e n a1 a2 a3 a4 b hsel i1 i2 i3 i4 ib
    simp only [setStr, tree]
    rw [mapSel_cmd, strSel_cmd, hsel]
    simp only [Bool.false_and, Bool.false_eq_true, ↓reduceIte, mapSelL_append, i1, i2, i3, i4, ib]
  · intro e bg nm a2 a3 a4 b e2 en nm2 hn i2 i3 i4 ib
    have hemp : (treesA .brace a2 ++ (treesA .bracket a3 ++ treesA .brace a4)).isEmpty
        = (a2.isEmpty && a3.isEmpty && a4.isEmpty) := by
      cases a2 <;> cases a3 <;> cases a4 <;> simp
    simp only [setStr, ofQ_pe, ofQ_tk, tree]
    rw [mapSel_nenv, strSel_nenv, hn, hemp, oneLeaf_trees, ← Bool.and_assoc, ← Bool.and_assoc]
    split <;> rename_i hsel
    · simp only [hsel, ↓reduceIte]
      simp only [Bool.and_eq_true, List.isEmpty_iff] at hsel
      obtain ⟨⟨⟨⟨_, rfl⟩, rfl⟩, rfl⟩, _⟩ := hsel
      simp only [tree, strTop, treesA_nil, List.append_nil, trees_cons, trees_nil, hn]
    · simp only [hsel, Bool.false_eq_true, ↓reduceIte, tree, mapSelL_append, i2, i3, i4, ib, hn]
  · intro e bg nm a2 a3 a4 vb e5 hsel i2 i3 i4
    simp only [setStr, tree]
    rw [mapSel_nenv, strSel_nenv, hsel]
    simp only [Bool.false_and, Bool.false_eq_true, ↓reduceIte, mapSelL_append, mapSelL_cons, mapSelL_nil,
      i2, i3, i4]
    simp [mapSel, strSel]
  · intro sp o b c ib gk; simp [setStrArg, treeArg, mapSel, strSel, ib]
  · simp
  · intro e es ie ies; simp [ie, ies]
  · simp
  · intro a as ia ias gk; simp [ia gk, ias gk]

theorem tree_setStr : ∀ (e : Elem) (skip : List Str) (m : Mode) (nx : List Tok),
    WF skip m nx e = true → cmdNamesPlain e = true → envNamesPlain e = true → SQ qc qe skip →
    tree (setStr (SetS.ofQ qc qe s np) e) = mapSel (strSel qc qe) (strTop s np) (tree e) :=
  tree_setStr_all.1
theorem trees_setStr : ∀ (es : List Elem) (skip : List Str) (m : Mode) (ctx : Ctx) (nx : List Tok),
    WFs skip m ctx nx es = true → cmdNamesPlainS es = true → envNamesPlainS es = true → SQ qc qe skip →
    trees (setStrS (SetS.ofQ qc qe s np) es) = mapSelL (strSel qc qe) (strTop s np) (trees es) :=
  tree_setStr_all.2.2.1
theorem treeArg_setStr : ∀ (a : Arg) (m : Mode) (k gk : GKind),
    WFarg m k a = true → cmdNamesPlainArg a = true → envNamesPlainArg a = true →
    ∀ {skip : List Str}, SQ qc qe skip →
    treeArg gk (setStrArg (SetS.ofQ qc qe s np) a) = mapSel (strSel qc qe) (strTop s np) (treeArg gk a) :=
  fun a m k gk h hc he _ hq => tree_setStr_all.2.1 a m k h hc he hq.nil gk
theorem treesA_setStr : ∀ (as : List Arg) (m : Mode) (k gk : GKind),
    WFa m k as = true → cmdNamesPlainA as = true → envNamesPlainA as = true →
    ∀ {skip : List Str}, SQ qc qe skip →
    treesA gk (setStrA (SetS.ofQ qc qe s np) as) = mapSelL (strSel qc qe) (strTop s np) (treesA gk as) :=
  fun as m k gk h hc he _ hq => tree_setStr_all.2.2.2 as m k h hc he hq.nil gk

theorem treeD_setStr {skip : List Str} (d : Doc) (hwf : WFD skip d = true)
    (hc : cmdNamesPlainS d = true) (he : envNamesPlainS d = true) (hq : SQ qc qe skip) :
    treeD (setStrD (SetS.ofQ qc qe s np) d) = mapSelL (strSel qc qe) (strTop s np) (treeD d) :=
  trees_setStr d _ _ _ _ hwf hc he hq

theorem envNamesPlainA_setLeaf (tk : Tok) : ∀ as : List Arg,
    envNamesPlainA (as.map (Arg.setLeaf tk)) = true
  | [] => rfl
  | .mk sp o b c :: as => by
      simp [Arg.setLeaf, envNamesPlainA, envNamesPlainArg, envNamesPlainS, envNamesPlain,
        envNamesPlainA_setLeaf tk as]

theorem envNamesPlain_setStr_all (r : SetS) :
    (∀ e : Elem, envNamesPlain e = true → envNamesPlain (setStr r e) = true) ∧
    (∀ a : Arg, envNamesPlainArg a = true → envNamesPlainArg (setStrArg r a) = true) ∧
    (∀ es : List Elem, envNamesPlainS es = true → envNamesPlainS (setStrS r es) = true) ∧
    (∀ as : List Arg, envNamesPlainA as = true → envNamesPlainA (setStrA r as) = true) := by
  apply induct
  · intros; rfl
  · intro o b c ib h
    simp only [envNamesPlain] at h
    simp only [setStr, envNamesPlain]; exact ib h
  · intro k o b c ib h
    simp only [envNamesPlain] at h
    simp only [setStr, envNamesPlain]; exact ib h
  · intro e n a1 a2 a3 a4 i1 i2 i3 i4 h
    simp only [envNamesPlain, Bool.and_eq_true] at h
    simp only [setStr]
    split
    · simp only [envNamesPlain, Bool.and_eq_true]
      exact ⟨⟨⟨envNamesPlainA_setLeaf _ a1, envNamesPlainA_setLeaf _ a2⟩, envNamesPlainA_setLeaf _ a3⟩,
        envNamesPlainA_setLeaf _ a4⟩
    · simp only [envNamesPlain, Bool.and_eq_true]
      exact ⟨⟨⟨i1 h.1.1.1, i2 h.1.1.2⟩, i3 h.1.2⟩, i4 h.2⟩
  · intro e n a1 a2 a3 a4 b i1 i2 i3 i4 ib h
    simp only [envNamesPlain, Bool.and_eq_true] at h
    simp only [setStr, envNamesPlain, Bool.and_eq_true]
    exact ⟨⟨⟨⟨i1 h.1.1.1.1, i2 h.1.1.1.2⟩, i3 h.1.1.2⟩, i4 h.1.2⟩, ib h.2⟩
  · intro e bg nm a2 a3 a4 b e2 en nm2 i2 i3 i4 ib h
    simp only [envNamesPlain, Bool.and_eq_true] at h
    simp only [setStr]
    split
    · simp [envNamesPlain, envNamesPlainA, envNamesPlainS, h.1.1.1.1]
    · simp only [envNamesPlain, Bool.and_eq_true]
      exact ⟨⟨⟨⟨h.1.1.1.1, i2 h.1.1.1.2⟩, i3 h.1.1.2⟩, i4 h.1.2⟩, ib h.2⟩
  · intro e bg nm a2 a3 a4 vb e5 i2 i3 i4 h
    simp only [envNamesPlain, Bool.and_eq_true] at h
    simp only [setStr, envNamesPlain, Bool.and_eq_true]
    exact ⟨⟨⟨h.1.1.1, i2 h.1.1.2⟩, i3 h.1.2⟩, i4 h.2⟩
  · intro sp o b c ib h
    simp only [envNamesPlainArg] at h
    simp only [setStrArg, envNamesPlainArg]; exact ib h
  · intros; rfl
  · intro e es ie ies _ h
    simp only [envNamesPlainS, Bool.and_eq_true] at h
    simp only [setStrS_cons, envNamesPlainS, Bool.and_eq_true]
    exact ⟨ie h.1, ies h.2⟩
  · intros; rfl
  · intro a as ia ias h
    simp only [envNamesPlainA, Bool.and_eq_true] at h
    simp only [setStrA_cons, envNamesPlainA, Bool.and_eq_true]
    exact ⟨ia h.1, ias h.2⟩

theorem envNamesPlain_setStr (r : SetS) : ∀ e : Elem, envNamesPlain e = true →
    envNamesPlain (setStr r e) = true :=
  (envNamesPlain_setStr_all r).1
theorem envNamesPlainS_setStr (r : SetS) : ∀ es : List Elem, envNamesPlainS es = true →
    envNamesPlainS (setStrS r es) = true :=
  (envNamesPlain_setStr_all r).2.2.1
theorem envNamesPlainArg_setStr (r : SetS) : ∀ a : Arg, envNamesPlainArg a = true →
    envNamesPlainArg (setStrArg r a) = true :=
  (envNamesPlain_setStr_all r).2.1
theorem envNamesPlainA_setStr (r : SetS) : ∀ as : List Arg, envNamesPlainA as = true →
    envNamesPlainA (setStrA r as) = true :=
  (envNamesPlain_setStr_all r).2.2.2

end TexSoup.Gram
