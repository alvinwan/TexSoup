import TexSoupProofs.Complete.Env
/-!
# Completeness of the reader: `\item` and the contents it owns (`read_item`)
-/
namespace TexSoup.Gram
open TexSoup

theorem readItem_complete (es : List Elem) (hok : AllOK es) (rest : List Tok)
    (hwf : WFs [] .nonMath .item (win rest) es = true) (hstop : itemStop rest = true) (f : Nat)
    (hf : 3 * (toksS es ++ rest).length + 2 ≤ f) :
    readItem f (toksS es ++ rest) = .ok (trees es, rest) := by
  refine loop_complete (L := readItem) (mk := fun l => (l, rest)) (tol := false)
    (win_win rest).symm (fun g hg => ?_) (fun g e es r _ hwf hwe hf hr he hrec => ?_) es hok hwf f hf
  · cases rest with
    | nil => exact readItem.nil
    | cons t r =>
      simp only [itemStop, Bool.or_eq_true, Bool.and_eq_true, beq_iff_eq] at hstop
      rcases hstop with h | ⟨hesc, h⟩
      · exact readItem.close (by rw [h]; decide) (by rw [h]; rfl)
      · cases r with
        | nil => cases h
        | cons n r' =>
          obtain ⟨g', rfl⟩ : ∃ g', g = g' + 2 := ⟨g - 2, by simp only [List.length_cons] at hg; omega⟩
          exact readItem.stop (by rw [hesc]; rfl) (readCommand00_cons g' false .nonMath n r')
            (by simpa using h)
  · obtain ⟨-, hst, -, -⟩ := WFs_cons hwf
    simp only [startOK, Bool.and_eq_true, bne_iff_ne, ne_eq] at hst
    obtain ⟨⟨hge, hne⟩, hni⟩ := hst
    refine readItem.step (fun hesc => ?_) (fun _ => by simpa using hge) he hrec
    -- the look-ahead reads the name, which is neither `end` nor `item`
    obtain ⟨n, r', htk, hnt⟩ := toks_esc hwe (by simpa using hesc)
    obtain rfl : r = n :: r' := (List.cons.inj (hr.symm.trans htk)).2
    obtain ⟨g', rfl⟩ : ∃ g', g = g' + 2 := ⟨g - 2, by
      have := toks_length_pos e
      rw [List.length_append] at hf; omega⟩
    rw [hnt, Option.some.injEq] at hne hni
    exact ⟨_, _, readCommand00_cons g' false .nonMath n _, by simpa using ⟨hne, hni⟩⟩

theorem cmdSig_item' : cmdSig (-1) (-1) sItem = (-1, -1) := by decide
theorem sItem_ne_sEnd : (sItem == sEnd) = false := by decide

theorem item_ok (esc name : Tok) (a1 a2 a3 a4 : List Arg) (b : List Elem)
    (k1 : ArgsOK a1) (k2 : ArgsOK a2) (k3 : ArgsOK a3) (k4 : ArgsOK a4) (kb : AllOK b) :
    ElemOK (.item esc name a1 a2 a3 a4 b) := by
  intro skip tol m rest f hwf hf
  obtain ⟨g, rfl⟩ := succ_of_le hf
  obtain ⟨⟨hesc, hni, hmm⟩, w1, w2, w3, w4, hrun, hwb, hstop⟩ := WF_item.1 hwf
  rw [← win_append, runOK_win] at hrun
  rw [itemStop_win] at hstop
  simp only [toks, tree, List.cons_append, List.append_assoc, List.length_cons] at hf ⊢
  have hb : 3 * (toksA a1 ++ (toksA a2 ++ (toksA a3 ++ (toksA a4 ++ (toksS b ++ rest))))).length + 2 ≤
      g := by omega
  exact readExpr.item (by rw [hesc]; rfl) (by rw [hesc]; rfl)
    (readCommand_run tol m (-1) (-1) name a1 a2 a3 a4 k1 k2 k3 k4 w1 w2 w3 w4 _ hrun g
      (by simp only [List.length_cons]; omega))
    (by simpa using hni) (by simpa using hmm)
    (readItem_complete b kb rest hwb hstop g (fuel_drop (fuel_drop (fuel_drop (fuel_drop hb)))))

theorem item_peek (esc name : Tok) (a1 a2 a3 a4 : List Arg) (b : List Elem) (k2 : ArgsOK a2) :
    PeekOK (.item esc name a1 a2 a3 a4 b) := by
  intro skip tol m rest g hwf _ hf _
  obtain ⟨⟨_, hni, _⟩, w1, w2, _, _, hrun, _⟩ := WF_item.1 hwf
  rw [← win_append, runOK_win] at hrun
  simp only [toks, List.cons_append, List.append_assoc, List.length_cons] at hf
  have hgrp := peek_run tol (cmdMode name.text m) a1 a2 a3 a4 k2 w1 w2 (toksS b ++ rest)
    (by
      intro e1 e2
      subst e1 e2
      obtain ⟨e3, e4⟩ := runOK_noargs hrun
      exact ⟨e3, e4, runOK_noargs_open (by rw [hni, cmdSig_item']; decide) hrun⟩)
    g (by omega)
  obtain ⟨args, T', hr⟩ := readCommand10_ok g tol m name _ (by omega) hgrp
  refine ⟨name, toksA a1 ++ (toksA a2 ++ (toksA a3 ++ (toksA a4 ++ toksS b))), args, T',
    by simp [toks, firstTok], rfl, ?_⟩
  simp only [List.append_assoc]
  exact hr

end TexSoup.Gram
