import TexSoupModel.GrammarEdit
import TexSoupModel.Edit
import TexSoupProofs.Reader.PosFree
import TexSoupProofs.ExprInduct
/-!
# Node maps on trees and the updates of the edit model; trees without positions

`mapSel sel g` applies `g` to the outermost nodes selected by `sel`. If exactly one node of a
tree is selected (`cntSel … = 1`) and it stands at path `p`, then `mapSel sel g` is the update
`updAt · p f` of `TexSoupModel/Path.lean` for every `f` with `f t = some (g t)` at that node
(`updAt_mapSel`; for an edit of a document `applyEdit_mapSel`). Pure tree algebra, no grammar.

`bare` forgets all positions (`shape` keeps the `-1` of made-up nodes: a string assigned by
`node.string = s` is such a node, the re-parsed text has a real offset there).
-/
namespace TexSoup
open TexSoup

section
variable (sel : Expr → Bool) (g : Expr → Expr)

mutual
def cntSel : Expr → Nat
  | .text s p => if sel (.text s p) then 1 else 0
  | .cmd n a b p => (if sel (.cmd n a b p) then 1 else 0) + (cntSelL a + cntSelL b)
  | .nenv n a b p => (if sel (.nenv n a b p) then 1 else 0) + (cntSelL a + cntSelL b)
  | .math k b p => (if sel (.math k b p) then 1 else 0) + cntSelL b
  | .group k b p => (if sel (.group k b p) then 1 else 0) + cntSelL b
def cntSelL : List Expr → Nat
  | [] => 0
  | e :: es => cntSel e + cntSelL es
end

@[simp] theorem cntSelL_nil : cntSelL sel [] = 0 := by simp [cntSelL]
@[simp] theorem cntSelL_cons (e : Expr) (es : List Expr) :
    cntSelL sel (e :: es) = cntSel sel e + cntSelL sel es := by simp [cntSelL]
@[simp] theorem mapSelL_nil : mapSelL sel g [] = [] := by simp [mapSelL]
@[simp] theorem mapSelL_cons (e : Expr) (es : List Expr) :
    mapSelL sel g (e :: es) = mapSel sel g e :: mapSelL sel g es := by simp [mapSelL]

theorem cntSel_eq (e : Expr) :
    cntSel sel e = (if sel e then 1 else 0) + (cntSelL sel e.args + cntSelL sel e.body) := by
  cases e <;> simp [cntSel, Expr.args, Expr.body]

theorem mapSel_sel {e : Expr} (h : sel e = true) : mapSel sel g e = g e := by
  cases e <;> simp [mapSel, h]

theorem mapSelL_append (a b : List Expr) :
    mapSelL sel g (a ++ b) = mapSelL sel g a ++ mapSelL sel g b := by
  induction a with
  | nil => simp
  | cons e es ih => simp [ih]

theorem mapSel_cmd (n : Str) (a b : List Expr) (p : Int) :
    mapSel sel g (.cmd n a b p) =
      if sel (.cmd n a b p) then g (.cmd n a b p) else .cmd n (mapSelL sel g a) (mapSelL sel g b) p := by
  simp [mapSel]
theorem mapSel_nenv (n : Str) (a b : List Expr) (p : Int) :
    mapSel sel g (.nenv n a b p) =
      if sel (.nenv n a b p) then g (.nenv n a b p) else .nenv n (mapSelL sel g a) (mapSelL sel g b) p := by
  simp [mapSel]

theorem cntSel_le_of_getElem : ∀ (l : List Expr) (j : Nat) (x : Expr), l[j]? = some x →
    cntSel sel x ≤ cntSelL sel l
  | [], j, x, h => by simp at h
  | y :: ys, 0, x, h => by
      simp only [List.getElem?_cons_zero, Option.some.injEq] at h
      subst h; simp
  | y :: ys, j + 1, x, h => by
      simp only [List.getElem?_cons_succ] at h
      have := cntSel_le_of_getElem ys j x h
      simp only [cntSelL_cons]; omega

theorem sel_false_of_cnt {e : Expr} (h : cntSel sel e = 0) : sel e = false := by
  rw [cntSel_eq] at h
  cases hs : sel e with
  | false => rfl
  | true => rw [hs] at h; simp at h

theorem mapSel_id_all :
    (∀ e : Expr, cntSel sel e = 0 → mapSel sel g e = e) ∧
    (∀ es : List Expr, cntSelL sel es = 0 → mapSelL sel g es = es) := by
  apply Expr.induct
  · intro s p h
    simp [mapSel, sel_false_of_cnt sel h]
  · intro n a b p ia ib h
    have hs := sel_false_of_cnt sel h
    simp only [cntSel] at h
    simp [mapSel, hs, ia (by omega), ib (by omega)]
  · intro n a b p ia ib h
    have hs := sel_false_of_cnt sel h
    simp only [cntSel] at h
    simp [mapSel, hs, ia (by omega), ib (by omega)]
  · intro k b p ib h
    have hs := sel_false_of_cnt sel h
    simp only [cntSel] at h
    simp [mapSel, hs, ib (by omega)]
  · intro k b p ib h
    have hs := sel_false_of_cnt sel h
    simp only [cntSel] at h
    simp [mapSel, hs, ib (by omega)]
  · intros; simp
  · intro e es ie ies h
    simp only [cntSelL_cons] at h
    simp [ie (by omega), ies (by omega)]

theorem mapSel_id : ∀ e : Expr, cntSel sel e = 0 → mapSel sel g e = e := (mapSel_id_all sel g).1
theorem mapSelL_id : ∀ es : List Expr, cntSelL sel es = 0 → mapSelL sel g es = es :=
  (mapSel_id_all sel g).2

/-- all selected nodes of a list lie in its `j`-th element: only that one changes -/
theorem mapSelL_set : ∀ (l : List Expr) (j : Nat) (x : Expr), l[j]? = some x →
    cntSelL sel l = cntSel sel x → mapSelL sel g l = l.set j (mapSel sel g x)
  | [], j, x, h, _ => by simp at h
  | y :: ys, 0, x, h, hc => by
      simp only [List.getElem?_cons_zero, Option.some.injEq] at h
      subst h
      simp only [cntSelL_cons] at hc
      simp [mapSelL_id sel g ys (by omega)]
  | y :: ys, j + 1, x, h, hc => by
      simp only [List.getElem?_cons_succ] at h
      have hle := cntSel_le_of_getElem sel ys j x h
      simp only [cntSelL_cons] at hc
      simp [mapSel_id sel g y (by omega), mapSelL_set ys j x h (by omega)]

/-- the selected nodes of `e` all lie in the `j`-th element of its contents -/
theorem mapSel_setBody (e : Expr) (j : Nat) (x : Expr) (hx : e.body[j]? = some x)
    (hc : cntSel sel e ≤ cntSel sel x) :
    mapSel sel g e = e.setBody (e.body.set j (mapSel sel g x)) := by
  have hle := cntSel_le_of_getElem sel _ j x hx
  rw [cntSel_eq] at hc
  have ht : sel e = false := by
    cases hs : sel e with
    | false => rfl
    | true => rw [hs] at hc; simp at hc; omega
  rw [ht] at hc
  have ha : cntSelL sel e.args = 0 := by simp at hc; omega
  have hb : cntSelL sel e.body = cntSel sel x := by simp at hc; omega
  cases e with
  | text s p => simp [Expr.body] at hx
  | cmd n a b p =>
    simp only [Expr.args, Expr.body] at ha hb hx
    simp [mapSel, ht, mapSelL_id sel g a ha, mapSelL_set sel g b j x hx hb, Expr.setBody, Expr.body]
  | nenv n a b p =>
    simp only [Expr.args, Expr.body] at ha hb hx
    simp [mapSel, ht, mapSelL_id sel g a ha, mapSelL_set sel g b j x hx hb, Expr.setBody, Expr.body]
  | math k b p =>
    simp only [Expr.body] at hb hx
    simp [mapSel, ht, mapSelL_set sel g b j x hx hb, Expr.setBody, Expr.body]
  | group k b p =>
    simp only [Expr.body] at hb hx
    simp [mapSel, ht, mapSelL_set sel g b j x hx hb, Expr.setBody, Expr.body]

/-- the selected nodes of `e` all lie in its `i`-th argument -/
theorem mapSel_setArgs (e : Expr) (i : Nat) (a : Expr) (ha : e.args[i]? = some a)
    (hc : cntSel sel e ≤ cntSel sel a) :
    mapSel sel g e = e.setArgs (e.args.set i (mapSel sel g a)) := by
  have hle := cntSel_le_of_getElem sel _ i a ha
  rw [cntSel_eq] at hc
  have ht : sel e = false := by
    cases hs : sel e with
    | false => rfl
    | true => rw [hs] at hc; simp at hc; omega
  rw [ht] at hc
  have hb : cntSelL sel e.body = 0 := by simp at hc; omega
  have hargs : cntSelL sel e.args = cntSel sel a := by simp at hc; omega
  cases e with
  | cmd n as b p =>
    simp only [Expr.args, Expr.body] at ha hb hargs
    simp [mapSel, ht, mapSelL_id sel g b hb, mapSelL_set sel g as i a ha hargs, Expr.setArgs, Expr.args]
  | nenv n as b p =>
    simp only [Expr.args, Expr.body] at ha hb hargs
    simp [mapSel, ht, mapSelL_id sel g b hb, mapSelL_set sel g as i a ha hargs, Expr.setArgs, Expr.args]
  | text s p => simp [Expr.args] at ha
  | math k b p => simp [Expr.args] at ha
  | group k b p => simp [Expr.args] at ha

theorem cntSel_le_of_getAt : ∀ (p : Path) (e t : Expr), getAt e p = some t →
    cntSel sel t ≤ cntSel sel e
  | [], e, t, h => by simp only [getAt, Option.some.injEq] at h; subst h; exact Nat.le_refl _
  | .body j :: p, e, t, h => by
      simp only [getAt, stepGet] at h
      cases hx : e.body[j]? with
      | none => rw [hx] at h; cases h
      | some x =>
        rw [hx] at h
        have h1 := cntSel_le_of_getAt p x t h
        have h2 := cntSel_le_of_getElem sel _ j x hx
        rw [cntSel_eq sel e]; omega
  | .arg i j :: p, e, t, h => by
      simp only [getAt, stepGet] at h
      cases ha : e.args[i]? with
      | none => rw [ha] at h; cases h
      | some a =>
        simp only [ha] at h
        cases hx : a.body[j]? with
        | none => rw [hx] at h; cases h
        | some x =>
          rw [hx] at h
          have h1 := cntSel_le_of_getAt p x t h
          have h2 := cntSel_le_of_getElem sel _ j x hx
          have h3 := cntSel_le_of_getElem sel _ i a ha
          rw [cntSel_eq sel e]
          rw [cntSel_eq sel a] at h3
          omega

theorem cntSel_pos {t : Expr} (h : sel t = true) : 1 ≤ cntSel sel t := by
  rw [cntSel_eq, h]; simp

theorem updAt_mapSel {f : Expr → Option Expr} : ∀ (p : Path) (e t : Expr), getAt e p = some t →
    sel t = true → f t = some (g t) → cntSel sel e = 1 →
    updAt e p f = some (mapSel sel g e)
  | [], e, t, h, ht, hf, _ => by
      simp only [getAt, Option.some.injEq] at h
      subst h
      simp only [updAt, hf, mapSel_sel sel g ht]
  | .body j :: p, e, t, h, ht, hf, hc => by
      simp only [getAt, stepGet] at h
      cases hx : e.body[j]? with
      | none => rw [hx] at h; cases h
      | some x =>
        rw [hx] at h
        have h1 := cntSel_le_of_getAt sel p x t h
        have h0 := cntSel_pos sel ht
        have h2 := cntSel_le_of_getElem sel _ j x hx
        have hxe : cntSel sel x = 1 := by rw [cntSel_eq sel e] at hc; omega
        simp only [updAt, hx, updAt_mapSel p x t h ht hf hxe]
        rw [mapSel_setBody sel g e j x hx (by omega)]
  | .arg i j :: p, e, t, h, ht, hf, hc => by
      simp only [getAt, stepGet] at h
      cases ha : e.args[i]? with
      | none => rw [ha] at h; cases h
      | some a =>
        simp only [ha] at h
        cases hx : a.body[j]? with
        | none => rw [hx] at h; cases h
        | some x =>
          rw [hx] at h
          have h1 := cntSel_le_of_getAt sel p x t h
          have h0 := cntSel_pos sel ht
          have h2 := cntSel_le_of_getElem sel _ j x hx
          have h3 := cntSel_le_of_getElem sel _ i a ha
          have hae := cntSel_eq sel a
          have hee := cntSel_eq sel e
          have hxe : cntSel sel x = 1 := by omega
          have hae1 : cntSel sel a = 1 := by omega
          simp only [updAt, ha, hx, updAt_mapSel p x t h ht hf hxe]
          rw [mapSel_setArgs sel g e i a ha (by omega),
            mapSel_setBody sel g a j x hx (by omega)]

theorem updAt_root_mapSel {f : Expr → Option Expr} (es : List Expr) (p : Path) (t : Expr)
    (hget : getAtRoot es p = some t) (ht : sel t = true) (hf : f t = some (g t))
    (hc : cntSelL sel es = 1) (hroot : sel (rootWrap es) = false) :
    updAt (rootWrap es) p f = some (rootWrap (mapSelL sel g es)) := by
  have h := updAt_mapSel sel g p (rootWrap es) t hget ht hf
    (by rw [cntSel_eq, hroot]; simp [rootWrap, Expr.args, Expr.body]; exact hc)
  rw [h]
  simp only [rootWrap] at hroot ⊢
  simp [mapSel, hroot]

theorem applyEdit_mapSel {f : Expr → Option Expr} {es : List Expr} {op : EditOp} {p : Path} {t : Expr}
    (hop : applyEditE (rootWrap es) op = updAt (rootWrap es) p f)
    (hget : getAtRoot es p = some t) (ht : sel t = true) (hf : f t = some (g t))
    (hc : cntSelL sel es = 1) (hroot : sel (rootWrap es) = false) :
    applyEdit es op = mapSelL sel g es := by
  rw [applyEdit, hop, updAt_root_mapSel sel g es p t hget ht hf hc hroot]
  simp [rootWrap, Expr.body]

end

@[simp] theorem bareL_nil : bareL [] = [] := by simp [bareL]
@[simp] theorem bareL_cons (e : Expr) (es : List Expr) : bareL (e :: es) = bare e :: bareL es := by
  simp [bareL]

theorem ser_bare_all : (∀ e : Expr, ser (bare e) = ser e) ∧ (∀ es : List Expr, serL (bareL es) = serL es) := by
  apply Expr.induct
  · intros; simp [bare, ser]
  · intro n a b p ia ib; simp [bare, ser, ia, ib]
  · intro n a b p ia ib; simp [bare, ser, ia, ib]
  · intro k b p ib; simp [bare, ser, ib]
  · intro k b p ib; simp [bare, ser, ib]
  · simp [serL]
  · intro e es ie ies; simp [serL, ie, ies]

theorem ser_bare : ∀ e : Expr, ser (bare e) = ser e := ser_bare_all.1
theorem serL_bareL : ∀ es : List Expr, serL (bareL es) = serL es := ser_bare_all.2

theorem bare_shape_all :
    (∀ e : Expr, bare (shape e) = bare e) ∧ (∀ es : List Expr, bareL (shapeL es) = bareL es) := by
  apply Expr.induct
  · intros; simp [bare, shape]
  · intro n a b p ia ib; simp [bare, shape, ia, ib]
  · intro n a b p ia ib; simp [bare, shape, ia, ib]
  · intro k b p ib; simp [bare, shape, ib]
  · intro k b p ib; simp [bare, shape, ib]
  · simp
  · intro e es ie ies; simp [ie, ies]

theorem bare_shape : ∀ e : Expr, bare (shape e) = bare e := bare_shape_all.1
theorem bareL_shapeL : ∀ es : List Expr, bareL (shapeL es) = bareL es := bare_shape_all.2

theorem bareL_of_shapeL_eq {a b : List Expr} (h : shapeL a = shapeL b) : bareL a = bareL b := by
  rw [← bareL_shapeL a, ← bareL_shapeL b, h]

theorem serL_of_bareL_eq {a b : List Expr} (h : bareL a = bareL b) : serL a = serL b := by
  rw [← serL_bareL a, ← serL_bareL b, h]

theorem bare_mapSel_congr_all (sel : Expr → Bool) (g g' : Expr → Expr) (h : ∀ e, bare (g e) = bare (g' e)) :
    (∀ e : Expr, bare (mapSel sel g e) = bare (mapSel sel g' e)) ∧
    (∀ es : List Expr, bareL (mapSelL sel g es) = bareL (mapSelL sel g' es)) := by
  apply Expr.induct
  · intro s p
    by_cases hs : sel (.text s p) = true <;> simp [mapSel, hs, h]
  · intro n a b p ia ib
    by_cases hs : sel (.cmd n a b p) = true
    · simp [mapSel, hs, h]
    · simp [mapSel, hs, bare, ia, ib]
  · intro n a b p ia ib
    by_cases hs : sel (.nenv n a b p) = true
    · simp [mapSel, hs, h]
    · simp [mapSel, hs, bare, ia, ib]
  · intro k b p ib
    by_cases hs : sel (.math k b p) = true
    · simp [mapSel, hs, h]
    · simp [mapSel, hs, bare, ib]
  · intro k b p ib
    by_cases hs : sel (.group k b p) = true
    · simp [mapSel, hs, h]
    · simp [mapSel, hs, bare, ib]
  · simp
  · intro e es ie ies; simp [ie, ies]

theorem bare_mapSel_congr (sel : Expr → Bool) (g g' : Expr → Expr) (h : ∀ e, bare (g e) = bare (g' e)) :
    ∀ e : Expr, bare (mapSel sel g e) = bare (mapSel sel g' e) :=
  (bare_mapSel_congr_all sel g g' h).1
theorem bareL_mapSelL_congr (sel : Expr → Bool) (g g' : Expr → Expr) (h : ∀ e, bare (g e) = bare (g' e)) :
    ∀ es : List Expr, bareL (mapSelL sel g es) = bareL (mapSelL sel g' es) :=
  (bare_mapSel_congr_all sel g g' h).2

end TexSoup
