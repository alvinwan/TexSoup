import TexSoupProofs.Complete.Run
/-!
# Completeness of the reader: commands
-/
namespace TexSoup.Gram
open TexSoup

theorem readCommand_run (tol : Bool) (m : Mode) (nreq nopt : Int) (name : Tok) (a1 a2 a3 a4 : List Arg)
    (k1 : ArgsOK a1) (k2 : ArgsOK a2) (k3 : ArgsOK a3) (k4 : ArgsOK a4)
    (w1 : WFa (cmdMode name.text m) .bracket a1 = true) (w2 : WFa (cmdMode name.text m) .brace a2 = true)
    (w3 : WFa (cmdMode name.text m) .bracket a3 = true) (w4 : WFa (cmdMode name.text m) .brace a4 = true)
    (rest : List Tok) (hrun : runOK (cmdSig nreq nopt name.text) a1 a2 a3 a4 rest = true) (f : Nat)
    (hf : 3 * (name :: (toksA a1 ++ (toksA a2 ++ (toksA a3 ++ (toksA a4 ++ rest))))).length + 3 ≤ f) :
    readCommand f nreq nopt tol m (name :: (toksA a1 ++ (toksA a2 ++ (toksA a3 ++ (toksA a4 ++ rest))))) =
      .ok ((name, treesA .bracket a1 ++ (treesA .brace a2 ++ (treesA .bracket a3 ++ treesA .brace a4))),
        rest) := by
  obtain ⟨g, rfl⟩ := succ_of_le hf
  simp only [List.length_cons] at hf
  exact readCommand.cons (readArgs_run tol (cmdMode name.text m) (cmdSig nreq nopt name.text)
    a1 a2 a3 a4 k1 k2 k3 k4 w1 w2 w3 w4 rest hrun g (by omega))

theorem cmd_ok (esc name : Tok) (a1 a2 a3 a4 : List Arg)
    (k1 : ArgsOK a1) (k2 : ArgsOK a2) (k3 : ArgsOK a3) (k4 : ArgsOK a4) :
    ElemOK (.cmd esc name a1 a2 a3 a4) := by
  intro skip tol m rest f hwf hf
  obtain ⟨g, rfl⟩ := succ_of_le hf
  obtain ⟨⟨hesc, hni, hnb⟩, w1, w2, w3, w4, hrun⟩ := WF_cmd.1 hwf
  rw [runOK_win] at hrun
  simp only [toks, tree, List.cons_append, List.append_assoc, List.length_cons] at hf ⊢
  exact readExpr.cmd (by rw [hesc]; rfl) (by rw [hesc]; rfl)
    (readCommand_run tol m (-1) (-1) name a1 a2 a3 a4 k1 k2 k3 k4 w1 w2 w3 w4 rest hrun g
      (by simp only [List.length_cons]; omega))
    (by simpa using hni)
    (by simpa using fun hb => hnb.resolve_left fun h => h hb)

end TexSoup.Gram
