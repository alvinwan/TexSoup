import TexSoupModel.GrammarEdit
import TexSoupProofs.Complete.Relabel
/-!
# Renaming commands and environments keeps a document well-formed

The frame conditions of the grammar look at a command name only through `item` / `end` /
`begin`, its signature and its being a special command (`sameRole`), at an environment name
only through the skip list, its being a math environment and the comparison of `\end{x}` with
`strip` of `\begin{y}` (`envRole`). So `rename r` is a relabelling that keeps what the reader
looks at (`Ren.OK.labels`, `rename_relabel_all`), and `WF` is preserved (`WFD_rename`).
-/
namespace TexSoup.Gram
open TexSoup

@[simp] theorem renameS_nil (r : Ren) : renameS r [] = [] := by simp [renameS]
@[simp] theorem renameS_cons (r : Ren) (e : Elem) (es : List Elem) :
    renameS r (e :: es) = rename r e :: renameS r es := by simp [renameS]
@[simp] theorem renameA_nil (r : Ren) : renameA r [] = [] := by simp [renameA]
@[simp] theorem renameA_cons (r : Ren) (a : Arg) (as : List Arg) :
    renameA r (a :: as) = renameArg r a :: renameA r as := by simp [renameA]

structure Ren.OK (r : Ren) (skip : List Str) : Prop where
  cmd : ∀ esc n, r.pc esc n = true → sameRole n.text r.newc = true
  env : ∀ esc nt, r.pe esc nt = true → envRole nt.text r.newe = true ∧ memStr r.newe skip = false

theorem iff_of_beq_eq {a b c : Str} (h : (a == c) = (b == c)) : b = c ↔ a = c := by
  rw [← beq_iff_eq, ← h, beq_iff_eq]

theorem cmdName_same {r : Ren} {skip : List Str} (h : r.OK skip) (esc n : Tok) :
    SameName n (r.cmdName esc n) := by
  unfold Ren.cmdName
  by_cases hp : r.pc esc n = true
  · rw [if_pos hp]
    have hr := h.cmd esc n hp
    simp only [sameRole, Bool.and_eq_true, bne_iff_ne, ne_eq, beq_iff_eq] at hr
    obtain ⟨⟨⟨⟨⟨h1, h2⟩, h3⟩, h4⟩, h5⟩, h6⟩ := hr
    exact ⟨rfl, ⟨fun h => absurd h h2, fun h => absurd h h1⟩, iff_of_beq_eq h3, iff_of_beq_eq h4, h5.symm,
      fun m => by simp only [cmdMode, h6]⟩
  · rw [if_neg hp]; exact SameName.refl n

def Ren.labels (r : Ren) : Relabel :=
  ⟨id, id, r.cmdName, fun esc nt t => if r.pe esc nt then { t with text := r.newe } else t⟩

theorem Ren.OK.labels {r : Ren} {skip : List Str} (h : r.OK skip) : r.labels.OK skip := by
  have env : ∀ esc nt : Tok,
      (∀ m, envMode (strip (r.labels.envNt esc nt nt).text) m = envMode (strip nt.text) m) ∧
      (memStr (strip nt.text) skip = false → memStr (strip (r.labels.envNt esc nt nt).text) skip = false) ∧
      ∀ t : Tok, t.text = strip nt.text →
        (r.labels.envNt esc nt t).text = strip (r.labels.envNt esc nt nt).text := by
    intro esc nt
    by_cases hp : r.pe esc nt = true
    · obtain ⟨hrole, hsk⟩ := h.env esc nt hp
      simp only [envRole, Bool.and_eq_true, beq_iff_eq] at hrole
      simp only [Ren.labels, hp, if_true, hrole.1]
      exact ⟨fun m => by simp only [envMode, hrole.2], fun _ => hsk, fun _ _ => trivial⟩
    · have hp' : r.pe esc nt = false := by simpa using hp
      simp only [Ren.labels, hp']
      exact ⟨fun _ => rfl, id, fun _ ht => ht⟩
  exact {
    leaf := fun _ => rfl
    spOK := fun _ hs => hs
    spNone := rfl
    name := cmdName_same h
    envCat := fun esc nt t => by simp only [Ren.labels]; split <;> rfl
    envMode := fun esc nt => (env esc nt).1
    envSkip := fun esc nt => (env esc nt).2.1
    envEnd := fun esc nt => (env esc nt).2.2 }

theorem rename_relabel_all (r : Ren) :
    (∀ e : Elem, rename r e = relabel r.labels e) ∧
    (∀ a : Arg, renameArg r a = relabelArg r.labels a) ∧
    (∀ es : List Elem, renameS r es = relabelS r.labels es) ∧
    (∀ as : List Arg, renameA r as = relabelA r.labels as) := by
  have name : ∀ (esc nt : Tok) (nm : NameArg),
      r.envName (r.pe esc nt) nm = r.labels.nameArg (r.labels.envNt esc nt) nm := by
    intro esc nt nm
    by_cases hp : r.pe esc nt = true <;> simp [Ren.envName, Ren.labels, Relabel.nameArg, hp]
  apply induct
  · intro t; rfl
  · intro o b c ib; simp [rename, relabel, ib]
  · intro k o b c ib; simp [rename, relabel, ib]
  · intro e n a1 a2 a3 a4 i1 i2 i3 i4; simp [rename, relabel, Ren.labels, i1, i2, i3, i4]
  · intro e n a1 a2 a3 a4 b i1 i2 i3 i4 ib; simp [rename, relabel, i1, i2, i3, i4, ib]
  · intro e bg nm a2 a3 a4 b e2 en nm2 i2 i3 i4 ib
    simp [rename, relabel, name, i2, i3, i4, ib]
  · intro e bg nm a2 a3 a4 vb e5 i2 i3 i4
    simp [rename, relabel, i2, i3, i4]
    rfl
  · intro sp o b c ib; simp [renameArg, relabelArg, Ren.labels, ib]
  · rfl
  · intro e es ie ies _; simp [ie, ies]
  · rfl
  · intro a as ia ias; simp [ia, ias]

theorem WF_rename {r : Ren} : ∀ (e : Elem) (skip : List Str) (m : Mode) (nx nx' : List Tok),
    WF skip m nx e = true → r.OK skip → key3 nx' = key3 nx → WF skip m nx' (rename r e) = true :=
  fun e skip m nx nx' h hr hk =>
    (rename_relabel_all r).1 e ▸ WF_relabel_all.1 e skip m nx nx' h hr.labels hk
theorem WFs_rename {r : Ren} : ∀ (es : List Elem) (skip : List Str) (m : Mode) (ctx : Ctx)
    (nx nx' : List Tok), WFs skip m ctx nx es = true → r.OK skip → key3 nx' = key3 nx →
    WFs skip m ctx nx' (renameS r es) = true :=
  fun es skip m ctx nx nx' h hr hk =>
    (rename_relabel_all r).2.2.1 es ▸ WF_relabel_all.2.2.1 es skip m ctx nx nx' h hr.labels hk
theorem WFarg_rename {r : Ren} : ∀ (a : Arg) (m : Mode) (k : GKind),
    WFarg m k a = true → ∀ {skip : List Str}, r.OK skip → WFarg m k (renameArg r a) = true :=
  fun a m k h _ hr => (rename_relabel_all r).2.1 a ▸ WF_relabel_all.2.1 a m k h hr.labels
theorem WFa_rename {r : Ren} : ∀ (as : List Arg) (m : Mode) (k : GKind),
    WFa m k as = true → ∀ {skip : List Str}, r.OK skip → WFa m k (renameA r as) = true :=
  fun as m k h _ hr => (rename_relabel_all r).2.2.2 as ▸ WF_relabel_all.2.2.2 as m k h hr.labels

theorem WFD_rename {r : Ren} (skip : List Str) (d : Doc) (h : WFD skip d = true) (hr : r.OK skip) :
    WFD skip (renameD r d) = true :=
  WFs_rename d _ _ _ _ _ h hr rfl

end TexSoup.Gram
