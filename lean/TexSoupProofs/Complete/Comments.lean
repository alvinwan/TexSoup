import TexSoupProofs.Complete.Relabel
/-!
# Changing the payload of comments keeps a document well-formed

No frame condition of the grammar looks at the text of a leaf token: `mapComments f` is a
relabelling (`mapComments_relabel_all`) for every `f`, so `WF` is preserved (`WFD_mapComments`).
-/
namespace TexSoup.Gram
open TexSoup

@[simp] theorem mapCommentsS_nil (f : Str → Str) : mapCommentsS f [] = [] := by simp [mapCommentsS]
@[simp] theorem mapCommentsS_cons (f : Str → Str) (e : Elem) (es : List Elem) :
    mapCommentsS f (e :: es) = mapComments f e :: mapCommentsS f es := by simp [mapCommentsS]
@[simp] theorem mapCommentsA_nil (f : Str → Str) : mapCommentsA f [] = [] := by simp [mapCommentsA]
@[simp] theorem mapCommentsA_cons (f : Str → Str) (a : Arg) (as : List Arg) :
    mapCommentsA f (a :: as) = mapCommentsArg f a :: mapCommentsA f as := by simp [mapCommentsA]

@[simp] theorem mapCommentTok_cat (f : Str → Str) (t : Tok) : (mapCommentTok f t).cat = t.cat := by
  unfold mapCommentTok; split <;> rfl
@[simp] theorem mapCommentTok_pos (f : Str → Str) (t : Tok) : (mapCommentTok f t).pos = t.pos := by
  unfold mapCommentTok; split <;> rfl

def commentLabels (f : Str → Str) : Relabel := ⟨mapCommentTok f, id, fun _ n => n, fun _ _ t => t⟩

theorem commentLabels_ok (f : Str → Str) (skip : List Str) : (commentLabels f).OK skip where
  leaf := mapCommentTok_cat f
  spOK _ h := h
  spNone := rfl
  name _ n := .refl n
  envCat _ _ _ := rfl
  envMode _ _ _ := rfl
  envSkip _ _ h := h
  envEnd _ _ _ h := h

theorem mapComments_relabel_all (f : Str → Str) :
    (∀ e : Elem, mapComments f e = relabel (commentLabels f) e) ∧
    (∀ a : Arg, mapCommentsArg f a = relabelArg (commentLabels f) a) ∧
    (∀ es : List Elem, mapCommentsS f es = relabelS (commentLabels f) es) ∧
    (∀ as : List Arg, mapCommentsA f as = relabelA (commentLabels f) as) := by
  apply induct
  · intro t; rfl
  · intro o b c ib; simp [mapComments, relabel, ib]
  · intro k o b c ib; simp [mapComments, relabel, ib]
  · intro e n a1 a2 a3 a4 i1 i2 i3 i4; simp [mapComments, relabel, commentLabels, i1, i2, i3, i4]
  · intro e n a1 a2 a3 a4 b i1 i2 i3 i4 ib; simp [mapComments, relabel, i1, i2, i3, i4, ib]
  · intro e bg nm a2 a3 a4 b e2 en nm2 i2 i3 i4 ib
    simp [mapComments, relabel, i2, i3, i4, ib]
    exact ⟨rfl, rfl⟩
  · intro e bg nm a2 a3 a4 vb e5 i2 i3 i4
    simp [mapComments, relabel, i2, i3, i4]
    rfl
  · intro sp o b c ib; simp [mapCommentsArg, relabelArg, commentLabels, ib]
  · rfl
  · intro e es ie ies _; simp [ie, ies]
  · rfl
  · intro a as ia ias; simp [ia, ias]

theorem WF_mapComments (f : Str → Str) : ∀ (e : Elem) (skip : List Str) (m : Mode) (nx nx' : List Tok),
    WF skip m nx e = true → key3 nx' = key3 nx → WF skip m nx' (mapComments f e) = true :=
  fun e skip m nx nx' h hk =>
    (mapComments_relabel_all f).1 e ▸ WF_relabel_all.1 e skip m nx nx' h (commentLabels_ok f skip) hk
theorem WFs_mapComments (f : Str → Str) : ∀ (es : List Elem) (skip : List Str) (m : Mode) (ctx : Ctx)
    (nx nx' : List Tok), WFs skip m ctx nx es = true → key3 nx' = key3 nx →
    WFs skip m ctx nx' (mapCommentsS f es) = true :=
  fun es skip m ctx nx nx' h hk =>
    (mapComments_relabel_all f).2.2.1 es ▸
      WF_relabel_all.2.2.1 es skip m ctx nx nx' h (commentLabels_ok f skip) hk
theorem WFarg_mapComments (f : Str → Str) : ∀ (a : Arg) (m : Mode) (k : GKind),
    WFarg m k a = true → WFarg m k (mapCommentsArg f a) = true :=
  fun a m k h => (mapComments_relabel_all f).2.1 a ▸ WF_relabel_all.2.1 a m k h (commentLabels_ok f [])
theorem WFa_mapComments (f : Str → Str) : ∀ (as : List Arg) (m : Mode) (k : GKind),
    WFa m k as = true → WFa m k (mapCommentsA f as) = true :=
  fun as m k h =>
    (mapComments_relabel_all f).2.2.2 as ▸ WF_relabel_all.2.2.2 as m k h (commentLabels_ok f [])

theorem WFD_mapComments (f : Str → Str) (skip : List Str) (d : Doc) (h : WFD skip d = true) :
    WFD skip (mapCommentsD f d) = true :=
  WFs_mapComments f d _ _ _ _ _ h rfl

end TexSoup.Gram
