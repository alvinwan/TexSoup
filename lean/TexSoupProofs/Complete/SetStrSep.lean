import TexSoupProofs.Complete.SetStr
import TexSoupProofs.Complete.SqueezeSep
import TexSoupProofs.TokLemmas.SegVar
/-!
# The re-stringed document is again a tokenizer output

If the new leaf is a `Text` token whose text is `goodText` (no ignored first character, no
character at which a text token ends, no leading blank run that would be split off), the token
list of `setStrD r d` is a segment variant (`SVar`) of that of `d`: hence `Separated` if that one
is and no command name is a bare sizing prefix, and so is its squeezed form.
-/
namespace TexSoup.Gram
open TexSoup

structure SetS.SepOK (r : SetS) : Prop where
  cat : r.tk.cat = .Text
  good : goodText r.tk.text = true

theorem svarA_setLeaf {r : SetS} (hr : r.SepOK) : ∀ (as : List Arg) (m : Mode) (k : GKind),
    WFa m k as = true → SVar (toksA as) (toksA (as.map (Arg.setLeaf r.tk)))
  | [], _, _, _ => by simp; exact .nil
  | .mk sp o b c :: as, m, k, h => by
      obtain ⟨h1, h2⟩ := WFa_cons h
      simp only [WFarg, Bool.and_eq_true, beq_iff_eq] at h1
      obtain ⟨⟨⟨_, ho⟩, hc⟩, _⟩ := h1
      have hl : leftDelim o := by cases k <;> simp [GKind.tokBegin] at ho <;> simp [leftDelim, ho]
      have hrt : rightDelim c := by cases k <;> simp [GKind.tokEnd] at hc <;> simp [rightDelim, hc]
      simp only [List.map_cons, toksA_cons, Arg.setLeaf, toksArg, toksS_cons, toks, toksS_nil,
        List.append_nil, List.singleton_append]
      exact ((SVar.refl _).append (.seg o (toksS b) r.tk c hl hrt hr.cat hr.good .nil)).append
        (svarA_setLeaf hr as m k h2)

theorem svar_setStr_all {r : SetS} (hr : r.SepOK) :
    (∀ (e : Elem) (skip : List Str) (m : Mode) (nx : List Tok),
      WF skip m nx e = true → SVar (toks e) (toks (setStr r e))) ∧
    (∀ (a : Arg) (m : Mode) (k : GKind),
      WFarg m k a = true → SVar (toksArg a) (toksArg (setStrArg r a))) ∧
    (∀ (es : List Elem) (skip : List Str) (m : Mode) (ctx : Ctx) (nx : List Tok),
      WFs skip m ctx nx es = true → SVar (toksS es) (toksS (setStrS r es))) ∧
    (∀ (as : List Arg) (m : Mode) (k : GKind),
      WFa m k as = true → SVar (toksA as) (toksA (setStrA r as))) := by
  apply induct
  · intros; simp only [setStr]; exact SVar.refl _
  · intro o b c ib _ _ _ h
    simp only [setStr, toks]
    exact .same o ((ib _ _ _ _ (WF_group.1 h).2.2).append (SVar.refl _))
  · intro k o b c ib _ _ _ h
    simp only [setStr, toks]
    exact .same o ((ib _ _ _ _ (WF_math.1 h).2.2).append (SVar.refl _))
  · intro e n a1 a2 a3 a4 i1 i2 i3 i4 _ _ _ h
    obtain ⟨_, w1, w2, w3, w4, _⟩ := WF_cmd.1 h
    simp only [setStr]
    split
    · simp only [toks]
      exact .same e (.same n ((svarA_setLeaf hr a1 _ _ w1).append ((svarA_setLeaf hr a2 _ _ w2).append
        ((svarA_setLeaf hr a3 _ _ w3).append (svarA_setLeaf hr a4 _ _ w4)))))
    · simp only [toks]
      exact .same e (.same n ((i1 _ _ w1).append ((i2 _ _ w2).append ((i3 _ _ w3).append (i4 _ _ w4)))))
  · intro e n a1 a2 a3 a4 b i1 i2 i3 i4 ib _ _ _ h
    obtain ⟨_, w1, w2, w3, w4, _, hb, _⟩ := WF_item.1 h
    simp only [setStr, toks]
    exact .same e (.same n ((i1 _ _ w1).append ((i2 _ _ w2).append
      ((i3 _ _ w3).append ((i4 _ _ w4).append (ib _ _ _ _ hb))))))
  · intro e bg nm a2 a3 a4 b e2 en nm2 i2 i3 i4 ib _ _ _ h
    obtain ⟨_, hnm, w2, w3, w4, _, _, hb, ⟨hesc2, _⟩, _⟩ := WF_env.1 h
    simp only [setStr]
    split
    · rename_i hsel
      simp only [Bool.and_eq_true, List.isEmpty_iff] at hsel
      obtain ⟨⟨⟨⟨_, rfl⟩, rfl⟩, rfl⟩, _⟩ := hsel
      simp only [NameArg.ok, Bool.and_eq_true, beq_iff_eq] at hnm
      simp only [toks, toksA_nil, List.nil_append, NameArg.toks, toksS_cons, toksS_nil, List.append_nil,
        List.singleton_append]
      refine .same e (.same bg ?_)
      -- the body is the segment between the `}` of the name group and the backslash of `\end`
      have hseg : SVar (nm.c :: (toksS b ++ e2 :: (en :: nm2.toks)))
          (nm.c :: r.tk :: e2 :: (en :: nm2.toks)) :=
        .seg nm.c (toksS b) r.tk e2 (.inr (.inr hnm.1.1.2)) (.inr (.inr hesc2)) hr.cat hr.good (SVar.refl _)
      have := (SVar.refl (nm.sp.toList ++ [nm.o, nm.nt])).append hseg
      simpa [NameArg.toks] using this
    · simp only [toks]
      exact .same e (.same bg ((SVar.refl _).append ((i2 _ _ w2).append
        ((i3 _ _ w3).append ((i4 _ _ w4).append ((ib _ _ _ _ hb).append (SVar.refl _)))))))
  · intro e bg nm a2 a3 a4 vb e5 i2 i3 i4 _ _ _ h
    obtain ⟨_, _, w2, w3, w4, _⟩ := WF_venv.1 h
    simp only [setStr, toks]
    exact .same e (.same bg ((SVar.refl _).append ((i2 _ _ w2).append
      ((i3 _ _ w3).append ((i4 _ _ w4).append (SVar.refl _))))))
  · intro sp o b c ib _ _ h
    simp only [WFarg, Bool.and_eq_true] at h
    simp only [setStrArg, toksArg]
    exact (SVar.refl _).append (.same o ((ib _ _ _ _ h.2).append (SVar.refl _)))
  · intros; simp; exact .nil
  · intro e es ie ies _ _ _ _ _ h
    obtain ⟨h1, _, h3, _⟩ := WFs_cons h
    simp only [setStrS_cons, toksS_cons]
    exact (ie _ _ _ h1).append (ies _ _ _ _ h3)
  · intros; simp; exact .nil
  · intro a as ia ias _ _ h
    obtain ⟨h1, h2⟩ := WFa_cons h
    simp only [setStrA_cons, toksA_cons]
    exact (ia _ _ h1).append (ias _ _ h2)

theorem svar_setStr {r : SetS} (hr : r.SepOK) : ∀ (e : Elem) (skip : List Str) (m : Mode) (nx : List Tok),
    WF skip m nx e = true → SVar (toks e) (toks (setStr r e)) :=
  (svar_setStr_all hr).1
theorem svarS_setStr {r : SetS} (hr : r.SepOK) : ∀ (es : List Elem) (skip : List Str) (m : Mode) (ctx : Ctx)
    (nx : List Tok), WFs skip m ctx nx es = true → SVar (toksS es) (toksS (setStrS r es)) :=
  (svar_setStr_all hr).2.2.1
theorem svarArg_setStr {r : SetS} (hr : r.SepOK) : ∀ (a : Arg) (m : Mode) (k : GKind),
    WFarg m k a = true → SVar (toksArg a) (toksArg (setStrArg r a)) :=
  (svar_setStr_all hr).2.1
theorem svarA_setStr {r : SetS} (hr : r.SepOK) : ∀ (as : List Arg) (m : Mode) (k : GKind),
    WFa m k as = true → SVar (toksA as) (toksA (setStrA r as)) :=
  (svar_setStr_all hr).2.2.2

theorem separated_setStr {r : SetS} {skip : List Str} {d : Doc} (hr : r.SepOK)
    (hwf : WFD skip d = true) (hsep : Separated none (toksD d))
    (hns : ∀ t ∈ toksD d, t.cat = .CommandName → t.text ∉ Tables.sizePrefix) :
    Separated none (toksD (setStrD r d)) :=
  (svarS_setStr hr d _ _ _ _ hwf).separated hsep hns

theorem separated_squeeze_setStr {r : SetS} {skip : List Str} {d : Doc} (hr : r.SepOK)
    (hwf : WFD skip d = true) (hsep : Separated none (toksD d))
    (hns : ∀ t ∈ toksD d, t.cat = .CommandName → t.text ∉ Tables.sizePrefix) :
    Separated none (toksD (squeezeD (setStrD r d))) :=
  separated_squeeze (WFD_setStr hr.cat skip d hwf) (separated_setStr hr hwf hsep hns)
    ((svarS_setStr hr d _ _ _ _ hwf).noBare hns)

end TexSoup.Gram
