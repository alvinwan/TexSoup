import TexSoupModel.GrammarOps
import TexSoupProofs.Complete.Main
import TexSoupProofs.Complete.Relabel
/-!
# Squeezing a document: the spacers the reader drops

`squeeze` keeps the tree (`tree_squeeze`) and, being a relabelling (`squeeze_relabel_all`),
well-formedness (`WF_squeeze`): a dropped spacer stands behind a name token or a closer, where no
look-ahead reaches.
-/
namespace TexSoup.Gram
open TexSoup

@[simp] theorem squeezeS_nil : squeezeS [] = [] := by simp [squeezeS]
@[simp] theorem squeezeS_cons (e : Elem) (es : List Elem) :
    squeezeS (e :: es) = squeeze e :: squeezeS es := by simp [squeezeS]
@[simp] theorem squeezeA_nil : squeezeA [] = [] := by simp [squeezeA]
@[simp] theorem squeezeA_cons (a : Arg) (as : List Arg) :
    squeezeA (a :: as) = squeezeArg a :: squeezeA as := by simp [squeezeA]

theorem tree_squeeze_all :
    (∀ e : Elem, tree (squeeze e) = tree e) ∧
    (∀ (a : Arg) (k : GKind), treeArg k (squeezeArg a) = treeArg k a) ∧
    (∀ es : List Elem, trees (squeezeS es) = trees es) ∧
    (∀ (as : List Arg) (k : GKind), treesA k (squeezeA as) = treesA k as) := by
  apply induct
  · intro t; simp [squeeze]
  · intro o b c ib; simp [squeeze, tree, ib]
  · intro k o b c ib; simp [squeeze, tree, ib]
  · intro e n a1 a2 a3 a4 i1 i2 i3 i4; simp [squeeze, tree, i1, i2, i3, i4]
  · intro e n a1 a2 a3 a4 b i1 i2 i3 i4 ib; simp [squeeze, tree, i1, i2, i3, i4, ib]
  · intro e bg nm a2 a3 a4 b e2 en nm2 i2 i3 i4 ib
    simp [squeeze, tree, NameArg.squeeze, i2, i3, i4, ib]
  · intro e bg nm a2 a3 a4 vb e5 i2 i3 i4
    simp [squeeze, tree, NameArg.squeeze, i2, i3, i4]
  · intro sp o b c ib k; simp [squeezeArg, treeArg, ib]
  · simp
  · intro e es ie ies _; simp [ie, ies]
  · simp
  · intro a as ia ias k; simp [ia, ias]

theorem tree_squeeze : ∀ e : Elem, tree (squeeze e) = tree e := tree_squeeze_all.1
theorem trees_squeeze : ∀ es : List Elem, trees (squeezeS es) = trees es := tree_squeeze_all.2.2.1
theorem treeArg_squeeze (k : GKind) : ∀ a : Arg, treeArg k (squeezeArg a) = treeArg k a :=
  fun a => tree_squeeze_all.2.1 a k
theorem treesA_squeeze (k : GKind) : ∀ as : List Arg, treesA k (squeezeA as) = treesA k as :=
  fun as => tree_squeeze_all.2.2.2 as k

/-- **The squeezed document has the same tree** (positions included: the dropped tokens carry
none of them). -/
theorem treeD_squeeze (d : Doc) : treeD (squeezeD d) = treeD d := trees_squeeze d

def squeezeLabels : Relabel := ⟨id, fun _ => none, fun _ n => n, fun _ _ t => t⟩

theorem squeezeLabels_ok (skip : List Str) : squeezeLabels.OK skip where
  leaf _ := rfl
  spOK _ _ := rfl
  spNone := rfl
  name _ n := .refl n
  envCat _ _ _ := rfl
  envMode _ _ _ := rfl
  envSkip _ _ h := h
  envEnd _ _ _ h := h

theorem squeeze_relabel_all :
    (∀ e : Elem, squeeze e = relabel squeezeLabels e) ∧
    (∀ a : Arg, squeezeArg a = relabelArg squeezeLabels a) ∧
    (∀ es : List Elem, squeezeS es = relabelS squeezeLabels es) ∧
    (∀ as : List Arg, squeezeA as = relabelA squeezeLabels as) := by
  apply induct
  · intro t; rfl
  · intro o b c ib; simp [squeeze, relabel, ib]
  · intro k o b c ib; simp [squeeze, relabel, ib]
  · intro e n a1 a2 a3 a4 i1 i2 i3 i4; simp [squeeze, relabel, squeezeLabels, i1, i2, i3, i4]
  · intro e n a1 a2 a3 a4 b i1 i2 i3 i4 ib; simp [squeeze, relabel, i1, i2, i3, i4, ib]
  · intro e bg nm a2 a3 a4 b e2 en nm2 i2 i3 i4 ib
    simp [squeeze, relabel, i2, i3, i4, ib]
    exact ⟨rfl, rfl⟩
  · intro e bg nm a2 a3 a4 vb e5 i2 i3 i4
    simp [squeeze, relabel, i2, i3, i4]
    rfl
  · intro sp o b c ib; simp [squeezeArg, relabelArg, squeezeLabels, ib]
  · rfl
  · intro e es ie ies _; simp [ie, ies]
  · rfl
  · intro a as ia ias; simp [ia, ias]

theorem WF_squeeze : ∀ (e : Elem) (skip : List Str) (m : Mode) (nx : List Tok),
    WF skip m nx e = true → WF skip m nx (squeeze e) = true := fun e skip m nx h =>
  squeeze_relabel_all.1 e ▸ WF_relabel_all.1 e skip m nx nx h (squeezeLabels_ok skip) rfl
theorem WFs_squeeze : ∀ (es : List Elem) (skip : List Str) (m : Mode) (ctx : Ctx) (nx : List Tok),
    WFs skip m ctx nx es = true → WFs skip m ctx nx (squeezeS es) = true := fun es skip m ctx nx h =>
  squeeze_relabel_all.2.2.1 es ▸ WF_relabel_all.2.2.1 es skip m ctx nx nx h (squeezeLabels_ok skip) rfl
theorem WFarg_squeeze : ∀ (a : Arg) (m : Mode) (k : GKind),
    WFarg m k a = true → WFarg m k (squeezeArg a) = true := fun a m k h =>
  squeeze_relabel_all.2.1 a ▸ WF_relabel_all.2.1 a m k h (squeezeLabels_ok [])
theorem WFa_squeeze : ∀ (as : List Arg) (m : Mode) (k : GKind),
    WFa m k as = true → WFa m k (squeezeA as) = true := fun as m k h =>
  squeeze_relabel_all.2.2.2 as ▸ WF_relabel_all.2.2.2 as m k h (squeezeLabels_ok [])

theorem WFD_squeeze (skip : List Str) (d : Doc) (h : WFD skip d = true) : WFD skip (squeezeD d) = true :=
  WFs_squeeze d _ _ _ _ h

end TexSoup.Gram
