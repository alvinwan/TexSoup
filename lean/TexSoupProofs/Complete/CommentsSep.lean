import TexSoupProofs.Complete.Comments
import TexSoupProofs.TokLemmas.CommentVar
/-!
# The substituted document is again a tokenizer output

If every new payload is a comment (`%`, then no end-of-line character), the token list of
`mapCommentsD f d` is a comment variant of that of `d`, hence `Separated` if that one is.
-/
namespace TexSoup.Gram
open TexSoup

/-- `f` produces comments: `%`, then no end-of-line character. -/
def CommentPayload (f : Str → Str) : Prop :=
  ∀ s, ∃ body, f s = 37 :: body ∧ ∀ c ∈ body, catOf c ≠ .EndOfLine

theorem cvar_mapComments_all (f : Str → Str) (hf : CommentPayload f) :
    (∀ e : Elem, CVar (toks e) (toks (mapComments f e))) ∧
    (∀ a : Arg, CVar (toksArg a) (toksArg (mapCommentsArg f a))) ∧
    (∀ es : List Elem, CVar (toksS es) (toksS (mapCommentsS f es))) ∧
    (∀ as : List Arg, CVar (toksA as) (toksA (mapCommentsA f as))) := by
  apply induct
  · intro t
    simp only [mapComments, toks]
    by_cases hc : (t.cat == TC.Comment) = true
    · have hc' : t.cat = TC.Comment := by simpa using hc
      refine .change t _ hc' (by rw [mapCommentTok_cat]; exact hc') ?_ .nil
      simp only [mapCommentTok, hc, if_true]
      exact hf t.text
    · have : mapCommentTok f t = t := by simp [mapCommentTok, hc]
      rw [this]; exact CVar.refl _
  · intro o b c ib
    simp only [mapComments, toks]
    exact .same o (ib.append (CVar.refl _))
  · intro k o b c ib
    simp only [mapComments, toks]
    exact .same o (ib.append (CVar.refl _))
  · intro e n a1 a2 a3 a4 i1 i2 i3 i4
    simp only [mapComments, toks]
    exact .same e (.same n (i1.append (i2.append (i3.append i4))))
  · intro e n a1 a2 a3 a4 b i1 i2 i3 i4 ib
    simp only [mapComments, toks]
    exact .same e (.same n (i1.append (i2.append (i3.append (i4.append ib)))))
  · intro e bg nm a2 a3 a4 b e2 en nm2 i2 i3 i4 ib
    simp only [mapComments, toks]
    exact .same e (.same bg ((CVar.refl _).append (i2.append (i3.append (i4.append
      (ib.append (CVar.refl _)))))))
  · intro e bg nm a2 a3 a4 vb e5 i2 i3 i4
    simp only [mapComments, toks]
    exact .same e (.same bg ((CVar.refl _).append (i2.append (i3.append (i4.append (CVar.refl _))))))
  · intro sp o b c ib
    simp only [mapCommentsArg, toksArg]
    exact (CVar.refl _).append (.same o (ib.append (CVar.refl _)))
  · simp; exact .nil
  · intro e es ie ies _
    simp only [mapCommentsS_cons, toksS_cons]
    exact ie.append ies
  · simp; exact .nil
  · intro a as ia ias
    simp only [mapCommentsA_cons, toksA_cons]
    exact ia.append ias

theorem cvar_mapComments (f : Str → Str) (hf : CommentPayload f) :
    ∀ e : Elem, CVar (toks e) (toks (mapComments f e)) :=
  (cvar_mapComments_all f hf).1
theorem cvarS_mapComments (f : Str → Str) (hf : CommentPayload f) :
    ∀ es : List Elem, CVar (toksS es) (toksS (mapCommentsS f es)) :=
  (cvar_mapComments_all f hf).2.2.1
theorem cvarArg_mapComments (f : Str → Str) (hf : CommentPayload f) :
    ∀ a : Arg, CVar (toksArg a) (toksArg (mapCommentsArg f a)) :=
  (cvar_mapComments_all f hf).2.1
theorem cvarA_mapComments (f : Str → Str) (hf : CommentPayload f) :
    ∀ as : List Arg, CVar (toksA as) (toksA (mapCommentsA f as)) :=
  (cvar_mapComments_all f hf).2.2.2

theorem separated_mapComments (f : Str → Str) (hf : CommentPayload f) (d : Doc)
    (h : Separated none (toksD d)) : Separated none (toksD (mapCommentsD f d)) :=
  (cvarS_mapComments f hf d).separated h (.inl rfl)

end TexSoup.Gram
