import TexSoupProofs.Complete.Canon
import TexSoupProofs.TokLemmas.SqueezeSep
/-!
# The squeezed document is again a tokenizer output

The token list of `squeezeD d` is obtained from that of `d` by dropping spacers that stand
between a name token or the closer of the previous argument and an opener (`sdropS`); with
`SDrop.separated` this gives `separated_squeeze`: if the tokens of a well-formed document are a
tokenizer output and no command name is a bare sizing prefix, the squeezed tokens are a
tokenizer output, too.
-/
namespace TexSoup.Gram
open TexSoup

theorem name_cat_after_escape {prev : Option Ch} {esc n : Tok} {r : List Tok}
    (h : Separated prev (esc :: n :: r)) (hc : esc.cat = .Escape) :
    n.cat = .CommandName ∨ n.cat = .PunctuationCommandName := by
  obtain ⟨_, hesc, hrest⟩ := h
  obtain ⟨hne, hn, _⟩ := hrest
  unfold TokOK at hesc hn
  rw [hc] at hesc
  simp only [TokOK'] at hesc
  obtain ⟨c0, ht, h0, h1⟩ := txtOne_iff.1 hesc
  rw [ht] at hn
  have hpe : prevEsc (lastD [c0] prev) = true := by simp [lastD, prevEsc, h0]
  obtain ⟨c1, body, hnt⟩ : ∃ c1 body, n.text = c1 :: body := by
    cases hx : n.text with
    | nil => exact absurd hx hne
    | cons c1 body => exact ⟨c1, body, rfl⟩
  -- what the backslash token asks of the next character leaves only the two name categories
  have hh := h1 c1 (by simp [flat, hnt])
  have hesc1 : isEscapable (catOf c1) = false := hh.1
  have hasym : asymSwitch (catOf c1) = none := hh.2
  rw [hnt] at hn
  cases hcat : n.cat <;> rw [hcat] at hn <;> simp only [TokOK'] at hn
  case CommandName => exact .inl rfl
  case PunctuationCommandName => exact .inr rfl
  case Escape | MathSwitch =>
    obtain ⟨c, ht', hc', _⟩ := txtOne_iff.1 hn
    cases ht'; rw [hc'] at hesc1; cases hesc1
  case GroupBegin | GroupEnd =>
    obtain ⟨c, ht', hc'⟩ := txtOne_iff.1 hn
    cases ht'; rw [hc'] at hesc1; cases hesc1
  case BracketBegin | BracketEnd =>
    obtain ⟨c, ht', hc'⟩ := txtOne_iff.1 hn
    cases ht'; rw [hc'] at hasym; cases hasym
  case DisplayMathSwitch | EscapedComment | MathGroupBegin | MathGroupEnd | DisplayMathGroupBegin |
      DisplayMathGroupEnd =>
    obtain ⟨a, b, ht', ha, _⟩ := txtTwo_iff.1 hn
    cases ht'; rw [ha] at hesc1; cases hesc1
  case Comment =>
    obtain ⟨a, b, ht', ha, _⟩ := txtMany_iff.1 hn
    cases ht'; rw [ha] at hesc1; cases hesc1
  case MergedSpacer =>
    exfalso
    obtain ⟨_, hrun, _⟩ := hn
    have : spacerRun (c1 :: (body ++ flat r)) = 0 :=
      spacerRun_zero c1 _ (by intro hx; rw [hx] at hesc1; cases hesc1)
        (by intro hx; rw [hx] at hesc1; cases hesc1)
    simp only [List.cons_append] at hrun
    rw [this] at hrun
    simp at hrun
  case Text =>
    exfalso
    obtain ⟨hm, _, _, _⟩ := hn
    obtain ⟨a, b, ht', hi, hl⟩ := txtMany_iff.1 hm
    cases ht'
    exact hl hpe (letter_of_leftover hesc1 hasym hi)

def NameCats (ts : List Tok) : Prop :=
  ∀ pre esc n r, ts = pre ++ esc :: n :: r → esc.cat = .Escape →
    n.cat = .CommandName ∨ n.cat = .PunctuationCommandName

theorem nameCats_of_separated {prev : Option Ch} {ts : List Tok} (h : Separated prev ts) : NameCats ts := by
  intro pre esc n r he hc
  rw [he] at h
  exact name_cat_after_escape h.suffix hc

theorem NameCats.infix {ts : List Tok} (h : NameCats ts) (A l B : List Tok) (he : ts = A ++ (l ++ B)) :
    NameCats l := by
  subst he
  intro pre esc n r hl hc
  exact h (A ++ pre) esc n (r ++ B) (by rw [hl]; simp) hc

theorem NameCats.left {a b : List Tok} (h : NameCats (a ++ b)) : NameCats a := h.infix [] a b rfl
theorem NameCats.right {a b : List Tok} (h : NameCats (a ++ b)) : NameCats b :=
  h.infix a b [] (by rw [List.append_nil])
theorem NameCats.tail {t : Tok} {r : List Tok} (h : NameCats (t :: r)) : NameCats r := h.right (a := [t])

/-- the token in front of an argument: a name, or the closer of the previous argument -/
def ArgPrev (pt : Option Tok) : Prop := ∃ n, pt = some n ∧ beforeDropOK n

theorem argPrev_toksArg : ∀ (a : Arg) (m : Mode) (k : GKind) (pt : Option Tok),
    WFarg m k a = true → ArgPrev (lastTokD (toksArg a) pt)
  | .mk sp o b c, m, k, pt, hwf => by
      obtain ⟨_, _, hc, _⟩ := WFarg_unfold hwf
      simp only [toksArg]
      rw [lastTokD_append]
      show ArgPrev (lastTokD (toksS b ++ [c]) _)
      rw [lastTokD_append]
      exact ⟨c, rfl, by cases k <;> simp [GKind.tokEnd] at hc <;> simp [beforeDropOK, hc]⟩

theorem argPrev_toksA : ∀ (as : List Arg) (m : Mode) (k : GKind) (pt : Option Tok),
    WFa m k as = true → ArgPrev pt → ArgPrev (lastTokD (toksA as) pt)
  | [], _, _, pt, _, hp => by simpa [lastTokD] using hp
  | a :: as, m, k, pt, hwf, _ => by
      obtain ⟨h1, h2⟩ := WFa_cons hwf
      simp only [toksA_cons]
      rw [lastTokD_append]
      exact argPrev_toksA as _ _ _ h2 (argPrev_toksArg a _ _ pt h1)

theorem sdrop_nameArg : ∀ (n : NameArg) {pt : Option Tok}, n.ok = true → ArgPrev pt →
    SDrop pt n.toks n.squeeze.toks
  | ⟨sp, o, nt, c⟩, pt, hok, hp => by
      simp only [NameArg.ok, Bool.and_eq_true, beq_iff_eq] at hok
      have hop : isOpenerTok o := .inl hok.1.1.1.2
      simp only [NameArg.toks, NameArg.squeeze]
      cases sp with
      | none => exact SDrop.refl _ _
      | some s =>
        obtain ⟨n, rfl, hn⟩ := hp
        have hs : s.cat = .MergedSpacer := by simpa [spOK] using hok.1.1.1.1
        exact .drop n s o hs hop hn (SDrop.refl _ _)

theorem argPrev_nameArg : ∀ (n : NameArg) {pt : Option Tok}, n.ok = true → ArgPrev pt →
    ArgPrev (lastTokD n.toks pt)
  | ⟨sp, o, nt, c⟩, pt, hok, _ => by
      simp only [NameArg.ok, Bool.and_eq_true, beq_iff_eq] at hok
      simp only [NameArg.toks]
      rw [lastTokD_append]
      exact ⟨c, rfl, .inl hok.1.1.2⟩

theorem sdrop_all :
    (∀ (e : Elem) (skip : List Str) (m : Mode) (nx : List Tok) (pt : Option Tok),
      WF skip m nx e = true → NameCats (toks e) → SDrop pt (toks e) (toks (squeeze e))) ∧
    (∀ (a : Arg) (m : Mode) (k : GKind) (pt : Option Tok), WFarg m k a = true →
      NameCats (toksArg a) → ArgPrev pt → SDrop pt (toksArg a) (toksArg (squeezeArg a))) ∧
    (∀ (es : List Elem) (skip : List Str) (m : Mode) (ctx : Ctx) (nx : List Tok) (pt : Option Tok),
      WFs skip m ctx nx es = true → NameCats (toksS es) →
      SDrop pt (toksS es) (toksS (squeezeS es))) ∧
    (∀ (as : List Arg) (m : Mode) (k : GKind) (pt : Option Tok), WFa m k as = true →
      NameCats (toksA as) → ArgPrev pt → SDrop pt (toksA as) (toksA (squeezeA as))) := by
  apply induct
  · intro t _ _ _ pt _ _; simp only [squeeze, toks]; exact SDrop.refl _ _
  · intro o b c ib skip m nx pt hwf hnc
    simp only [squeeze, toks] at hnc ⊢
    exact .keep pt o ((ib _ _ _ _ _ (WF_group.1 hwf).2.2 hnc.tail.left).append (SDrop.refl _ _))
  · intro k o b c ib skip m nx pt hwf hnc
    simp only [squeeze, toks] at hnc ⊢
    exact .keep pt o ((ib _ _ _ _ _ (WF_math.1 hwf).2.2 hnc.tail.left).append (SDrop.refl _ _))
  · intro e n a1 a2 a3 a4 i1 i2 i3 i4 skip m nx pt hwf hnc
    obtain ⟨⟨hesc, _⟩, w1, w2, w3, w4, _⟩ := WF_cmd.1 hwf
    simp only [squeeze, toks] at hnc ⊢
    have hs := hnc.tail.tail
    -- in front of every argument stands the name token or the closer of the argument before it
    have hn : ArgPrev (some n) := ⟨n, rfl, .inr (.inr (hnc [] e n _ rfl hesc))⟩
    have p1 := argPrev_toksA a1 _ _ _ w1 hn
    have p2 := argPrev_toksA a2 _ _ _ w2 p1
    have p3 := argPrev_toksA a3 _ _ _ w3 p2
    exact .keep pt e (.keep _ n ((i1 _ _ _ w1 hs.left hn).append ((i2 _ _ _ w2 hs.right.left p1).append
      ((i3 _ _ _ w3 hs.right.right.left p2).append (i4 _ _ _ w4 hs.right.right.right p3)))))
  · intro e n a1 a2 a3 a4 b i1 i2 i3 i4 ib skip m nx pt hwf hnc
    obtain ⟨⟨hesc, _⟩, w1, w2, w3, w4, _, hwb, _⟩ := WF_item.1 hwf
    simp only [squeeze, toks] at hnc ⊢
    have hs := hnc.tail.tail
    have hn : ArgPrev (some n) := ⟨n, rfl, .inr (.inr (hnc [] e n _ rfl hesc))⟩
    have p1 := argPrev_toksA a1 _ _ _ w1 hn
    have p2 := argPrev_toksA a2 _ _ _ w2 p1
    have p3 := argPrev_toksA a3 _ _ _ w3 p2
    exact .keep pt e (.keep _ n ((i1 _ _ _ w1 hs.left hn).append ((i2 _ _ _ w2 hs.right.left p1).append
      ((i3 _ _ _ w3 hs.right.right.left p2).append ((i4 _ _ _ w4 hs.right.right.right.left p3).append
        (ib _ _ _ _ _ hwb hs.right.right.right.right))))))
  · intro e bg nm a2 a3 a4 b e2 en nm2 i2 i3 i4 ib skip m nx pt hwf hnc
    obtain ⟨⟨hesc, _⟩, hnm, w2, w3, w4, _, _, hwb, ⟨hesc2, _⟩, hnm2, _⟩ := WF_env.1 hwf
    simp only [squeeze, toks] at hnc ⊢
    have hs := hnc.tail.tail.right
    have hbg : ArgPrev (some bg) := ⟨bg, rfl, .inr (.inr (hnc [] e bg _ rfl hesc))⟩
    have hen : ArgPrev (some en) :=
      ⟨en, rfl, .inr (.inr (hs.right.right.right.right [] e2 en _ rfl hesc2))⟩
    have p1 := argPrev_nameArg nm hnm hbg
    have p2 := argPrev_toksA a2 _ _ _ w2 p1
    have p3 := argPrev_toksA a3 _ _ _ w3 p2
    exact .keep pt e (.keep _ bg ((sdrop_nameArg nm hnm hbg).append ((i2 _ _ _ w2 hs.left p1).append
      ((i3 _ _ _ w3 hs.right.left p2).append ((i4 _ _ _ w4 hs.right.right.left p3).append
        ((ib _ _ _ _ _ hwb hs.right.right.right.left).append
          (.keep _ e2 (.keep _ en (sdrop_nameArg nm2 hnm2 hen)))))))))
  · intro e bg nm a2 a3 a4 vb e5 i2 i3 i4 skip m nx pt hwf hnc
    obtain ⟨⟨hesc, _⟩, hnm, w2, w3, w4, _⟩ := WF_venv.1 hwf
    simp only [squeeze, toks] at hnc ⊢
    have hs := hnc.tail.tail.right
    have hbg : ArgPrev (some bg) := ⟨bg, rfl, .inr (.inr (hnc [] e bg _ rfl hesc))⟩
    have p1 := argPrev_nameArg nm hnm hbg
    have p2 := argPrev_toksA a2 _ _ _ w2 p1
    have p3 := argPrev_toksA a3 _ _ _ w3 p2
    exact .keep pt e (.keep _ bg ((sdrop_nameArg nm hnm hbg).append ((i2 _ _ _ w2 hs.left p1).append
      ((i3 _ _ _ w3 hs.right.left p2).append ((i4 _ _ _ w4 hs.right.right.left p3).append
        (SDrop.refl _ _))))))
  · intro sp o b c ib m k pt hwf hnc hp
    obtain ⟨hsp, ho, _, hwb⟩ := WFarg_unfold hwf
    have hop : isOpenerTok o := by cases k <;> simp [GKind.tokBegin] at ho <;> simp [isOpenerTok, ho]
    simp only [squeezeArg, toksArg] at hnc ⊢
    have hbody : SDrop (some o) (toksS b ++ [c]) (toksS (squeezeS b) ++ [c]) :=
      (ib _ _ _ _ _ hwb hnc.right.tail.left).append (SDrop.refl _ _)
    cases sp with
    | none => exact .keep pt o hbody
    | some s =>
      obtain ⟨n, rfl, hn⟩ := hp
      simp only [spOK, beq_iff_eq] at hsp
      exact .drop n s o hsp hop hn hbody
  · intro _ _ _ _ pt _ _; simp; exact .nil pt
  · intro e es ie ies _ skip m ctx nx pt hwf hnc
    obtain ⟨h1, _, h3, _⟩ := WFs_cons hwf
    simp only [squeezeS_cons, toksS_cons] at hnc ⊢
    exact (ie _ _ _ pt h1 hnc.left).append (ies _ _ _ _ _ h3 hnc.right)
  · intro _ _ pt _ _ _; simp; exact .nil pt
  · intro a as ia ias m k pt hwf hnc hp
    obtain ⟨h1, h2⟩ := WFa_cons hwf
    simp only [squeezeA_cons, toksA_cons] at hnc ⊢
    exact (ia _ _ pt h1 hnc.left hp).append (ias _ _ _ h2 hnc.right (argPrev_toksArg a _ _ _ h1))

theorem sdrop : ∀ (e : Elem) (skip : List Str) (m : Mode) (nx : List Tok) (pt : Option Tok),
    WF skip m nx e = true → NameCats (toks e) → SDrop pt (toks e) (toks (squeeze e)) := sdrop_all.1
theorem sdropS : ∀ (es : List Elem) (skip : List Str) (m : Mode) (ctx : Ctx) (nx : List Tok) (pt : Option Tok),
    WFs skip m ctx nx es = true → NameCats (toksS es) → SDrop pt (toksS es) (toksS (squeezeS es)) :=
  sdrop_all.2.2.1
theorem sdropArg : ∀ (a : Arg) (m : Mode) (k : GKind) (pt : Option Tok),
    WFarg m k a = true → NameCats (toksArg a) → ArgPrev pt → SDrop pt (toksArg a) (toksArg (squeezeArg a)) :=
  sdrop_all.2.1
theorem sdropA : ∀ (as : List Arg) (m : Mode) (k : GKind) (pt : Option Tok),
    WFa m k as = true → NameCats (toksA as) → ArgPrev pt → SDrop pt (toksA as) (toksA (squeezeA as)) :=
  sdrop_all.2.2.2

/-- **The squeezed document is a tokenizer output** if the original is and no command name is a
bare sizing prefix (`\left`, `\right`, `\big`, `\Big`, `\bigg`, `\Bigg`: immediately followed by
its delimiter such a prefix is part of one sizing-command token and not a command name). -/
theorem separated_squeeze {skip : List Str} {d : Doc} (hwf : WFD skip d = true)
    (hsep : Separated none (toksD d))
    (hns : ∀ t ∈ toksD d, t.cat = .CommandName → t.text ∉ Tables.sizePrefix) :
    Separated none (toksD (squeezeD d)) :=
  (sdropS d _ _ _ _ none hwf (nameCats_of_separated hsep)).separated hns none hsep

end TexSoup.Gram
