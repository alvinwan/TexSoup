import TexSoupProofs.Complete.MapSel
import TexSoupProofs.Complete.RenameTree
/-!
# The tree of a re-argumented document

`setArgs r` gives the selected commands / environments the argument run
`[args[i] for i in i1 ++ i2 ++ i3 ++ i4]` (brackets, braces, brackets, braces), provided the picked
groups have these kinds. Its tree is `mapSel (argSel …) (argTop (i1 ++ i2 ++ i3 ++ i4))` of the
tree of the document (`treeD_setArgs`): the same node with exactly that argument list, the
argument groups themselves – contents and positions – untouched. Environment names stay plain
(`envNamesPlainS_setArgs`).

Whether the new run is read back as one run depends on the signature of the name and on the
tokens that follow (`Gram.runOK`); this is the well-formedness of the re-argumented document,
which the property theorem takes as a (decidable) hypothesis.
-/
namespace TexSoup.Gram
open TexSoup

@[simp] theorem setArgsS_nil (r : SetA) : setArgsS r [] = [] := by simp [setArgsS]
@[simp] theorem setArgsS_cons (r : SetA) (e : Elem) (es : List Elem) :
    setArgsS r (e :: es) = setArgs r e :: setArgsS r es := by simp [setArgsS]
@[simp] theorem setArgsA_nil (r : SetA) : setArgsA r [] = [] := by simp [setArgsA]
@[simp] theorem setArgsA_cons (r : SetA) (a : Arg) (as : List Arg) :
    setArgsA r (a :: as) = setArgsArg r a :: setArgsA r as := by simp [setArgsA]

theorem pick_map {α β : Type} (f : α → β) (idx : List Nat) (l : List α) :
    pick idx (l.map f) = (pick idx l).map f := by
  induction idx with
  | nil => rfl
  | cons i is ih =>
    simp only [pick, List.filterMap_cons, List.getElem?_map] at ih ⊢
    cases h : l[i]? with
    | none => simpa using ih
    | some x => simpa using ih

theorem pick_append {α : Type} (i j : List Nat) (l : List α) : pick (i ++ j) l = pick i l ++ pick j l := by
  simp [pick, List.filterMap_append]

theorem mem_of_mem_pick {α : Type} {idx : List Nat} {l : List α} {x : α} (h : x ∈ pick idx l) : x ∈ l := by
  simp only [pick, List.mem_filterMap] at h
  obtain ⟨i, _, hi⟩ := h
  exact List.mem_of_getElem? hi

def treeTA (x : TA) : Expr := treeArg x.1 x.2

theorem treesA_tag (k : GKind) : ∀ as : List Arg, treesA k as = (tag k as).map treeTA
  | [] => by simp [tag]
  | a :: as => by simp [tag, treeTA, treesA_tag k as]

theorem treesA_untag (k : GKind) : ∀ l : List TA, kindsAre k l = true →
    treesA k (untag l) = l.map treeTA
  | [], _ => by simp [untag]
  | (k', .mk sp o b c) :: l, h => by
      simp only [kindsAre, List.all_cons, Bool.and_eq_true, beq_iff_eq] at h
      have ih := treesA_untag k l (by simpa [kindsAre] using h.2)
      simp only [untag] at ih
      simp [untag, treeTA, treeArg, h.1, ih]

theorem isGroupOf_treeTA (k : GKind) (x : TA) : isGroupOf k (treeTA x) = (x.1 == k) := by
  obtain ⟨k', a⟩ := x
  cases a
  simp [treeTA, treeArg, isGroupOf]

theorem all_isGroupOf (k : GKind) (idx : List Nat) (l : List TA) :
    (pick idx (l.map treeTA)).all (isGroupOf k) = kindsAre k (pick idx l) := by
  rw [pick_map]
  simp only [kindsAre, List.all_map]
  congr 1
  funext x
  exact isGroupOf_treeTA k x

theorem ofQA_pc (qc qe : Str → Int → Bool) (i1 i2 i3 i4 : List Nat) (e n : Tok) :
    (SetA.ofQ qc qe i1 i2 i3 i4).pc e n = qc n.text e.pos := rfl
theorem ofQA_pe (qc qe : Str → Int → Bool) (i1 i2 i3 i4 : List Nat) (e n : Tok) :
    (SetA.ofQ qc qe i1 i2 i3 i4).pe e n = qe n.text e.pos := rfl

theorem ofQA_i1 (qc qe : Str → Int → Bool) (i1 i2 i3 i4 : List Nat) : (SetA.ofQ qc qe i1 i2 i3 i4).i1 = i1 := rfl
theorem ofQA_i2 (qc qe : Str → Int → Bool) (i1 i2 i3 i4 : List Nat) : (SetA.ofQ qc qe i1 i2 i3 i4).i2 = i2 := rfl
theorem ofQA_i3 (qc qe : Str → Int → Bool) (i1 i2 i3 i4 : List Nat) : (SetA.ofQ qc qe i1 i2 i3 i4).i3 = i3 := rfl
theorem ofQA_i4 (qc qe : Str → Int → Bool) (i1 i2 i3 i4 : List Nat) : (SetA.ofQ qc qe i1 i2 i3 i4).i4 = i4 := rfl

theorem argSel_cmd (qc qe : Str → Int → Bool) (i1 i2 i3 i4 : List Nat) (n : Str) (a b : List Expr) (p : Int) :
    argSel qc qe i1 i2 i3 i4 (.cmd n a b p) =
      (qc n p && (pick i1 a).all (isGroupOf .bracket) && (pick i2 a).all (isGroupOf .brace)
        && (pick i3 a).all (isGroupOf .bracket) && (pick i4 a).all (isGroupOf .brace)) := rfl
theorem argSel_nenv (qc qe : Str → Int → Bool) (i1 i2 i3 i4 : List Nat) (n : Str) (a b : List Expr) (p : Int) :
    argSel qc qe i1 i2 i3 i4 (.nenv n a b p) =
      (qe n p && i1.isEmpty && (pick i2 a).all (isGroupOf .brace)
        && (pick i3 a).all (isGroupOf .bracket) && (pick i4 a).all (isGroupOf .brace)) := rfl

variable {qc qe : Str → Int → Bool} {i1 i2 i3 i4 : List Nat}

theorem tree_setArgs_all :
    (∀ (e : Elem) (skip : List Str) (m : Mode) (nx : List Tok),
      WF skip m nx e = true → cmdNamesPlain e = true → envNamesPlain e = true → SQ qc qe skip →
      tree (setArgs (SetA.ofQ qc qe i1 i2 i3 i4) e) =
        mapSel (argSel qc qe i1 i2 i3 i4) (argTop (i1 ++ (i2 ++ (i3 ++ i4)))) (tree e)) ∧
    (∀ (a : Arg) (m : Mode) (k : GKind),
      WFarg m k a = true → cmdNamesPlainArg a = true → envNamesPlainArg a = true → SQ qc qe [] →
      ∀ gk, treeArg gk (setArgsArg (SetA.ofQ qc qe i1 i2 i3 i4) a) =
        mapSel (argSel qc qe i1 i2 i3 i4) (argTop (i1 ++ (i2 ++ (i3 ++ i4)))) (treeArg gk a)) ∧
    (∀ (es : List Elem) (skip : List Str) (m : Mode) (ctx : Ctx) (nx : List Tok),
      WFs skip m ctx nx es = true → cmdNamesPlainS es = true → envNamesPlainS es = true → SQ qc qe skip →
      trees (setArgsS (SetA.ofQ qc qe i1 i2 i3 i4) es) =
        mapSelL (argSel qc qe i1 i2 i3 i4) (argTop (i1 ++ (i2 ++ (i3 ++ i4)))) (trees es)) ∧
    (∀ (as : List Arg) (m : Mode) (k : GKind),
      WFa m k as = true → cmdNamesPlainA as = true → envNamesPlainA as = true → SQ qc qe [] →
      ∀ gk, treesA gk (setArgsA (SetA.ofQ qc qe i1 i2 i3 i4) as) =
        mapSelL (argSel qc qe i1 i2 i3 i4) (argTop (i1 ++ (i2 ++ (i3 ++ i4)))) (treesA gk as)) := by
  apply induct_sel
  · intro t; simp [setArgs, tree, mapSel, argSel]
  · intro o b c ib; simp [setArgs, tree, mapSel, argSel, ib]
  · intro k o b c ib; simp [setArgs, tree, mapSel, argSel, ib]
  · intro e n a1 a2 a3 a4 hn j1 j2 j3 j4
    -- both sides pick from the four runs taken as one list of groups tagged with their kinds
    have hall : treesA .bracket a1 ++ (treesA .brace a2 ++ (treesA .bracket a3 ++ treesA .brace a4)) =
        (tag .bracket a1 ++ (tag .brace a2 ++ (tag .bracket a3 ++ tag .brace a4))).map treeTA := by
      simp [treesA_tag]
    simp only [setArgs, ofQA_pc, ofQA_i1, ofQA_i2, ofQA_i3, ofQA_i4, tree]
    rw [mapSel_cmd, argSel_cmd, hn, hall, all_isGroupOf, all_isGroupOf, all_isGroupOf, all_isGroupOf]
    split <;> rename_i hsel
    · simp only [hsel, ↓reduceIte]
      simp only [Bool.and_eq_true] at hsel
      obtain ⟨⟨⟨⟨_, k1⟩, k2⟩, k3⟩, k4⟩ := hsel
      simp only [tree, argTop, treesA_untag _ _ k1, treesA_untag _ _ k2, treesA_untag _ _ k3,
        treesA_untag _ _ k4, pick_append, pick_map, hn]
      simp only [List.map_append]
    · simp only [hsel, Bool.false_eq_true, ↓reduceIte, tree, mapSelL_append, mapSelL_nil, ← hall, hn,
        j1, j2, j3, j4]
  · intro e n a1 a2 a3 a4 b hsel j1 j2 j3 j4 ib
    simp only [setArgs, tree]
    rw [mapSel_cmd, argSel_cmd, hsel]
    simp only [Bool.false_and, Bool.false_eq_true, ↓reduceIte, mapSelL_append, j1, j2, j3, j4, ib]
  · intro e bg nm a2 a3 a4 b e2 en nm2 hn j2 j3 j4 ib
    have hall : treesA .brace a2 ++ (treesA .bracket a3 ++ treesA .brace a4) =
        (tag .brace a2 ++ (tag .bracket a3 ++ tag .brace a4)).map treeTA := by
      simp [treesA_tag]
    simp only [setArgs, ofQA_pe, ofQA_i1, ofQA_i2, ofQA_i3, ofQA_i4, tree]
    rw [mapSel_nenv, argSel_nenv, hn, hall, all_isGroupOf, all_isGroupOf, all_isGroupOf]
    split <;> rename_i hsel
    · simp only [hsel, ↓reduceIte]
      simp only [Bool.and_eq_true, List.isEmpty_iff] at hsel
      obtain ⟨⟨⟨⟨_, k1⟩, k2⟩, k3⟩, k4⟩ := hsel
      simp only [tree, argTop, treesA_untag _ _ k2, treesA_untag _ _ k3, treesA_untag _ _ k4, k1,
        List.nil_append, pick_append, pick_map, hn]
      simp only [List.map_append]
    · simp only [hsel, Bool.false_eq_true, ↓reduceIte, tree, mapSelL_append, ← hall, hn, j2, j3, j4, ib]
  · intro e bg nm a2 a3 a4 vb e5 hsel j2 j3 j4
    simp only [setArgs, tree]
    rw [mapSel_nenv, argSel_nenv, hsel]
    simp only [Bool.false_and, Bool.false_eq_true, ↓reduceIte, mapSelL_append, mapSelL_cons, mapSelL_nil,
      j2, j3, j4]
    simp [mapSel, argSel]
  · intro sp o b c ib gk; simp [setArgsArg, treeArg, mapSel, argSel, ib]
  · simp
  · intro e es ie ies; simp [ie, ies]
  · simp
  · intro a as ia ias gk; simp [ia gk, ias gk]

theorem tree_setArgs : ∀ (e : Elem) (skip : List Str) (m : Mode) (nx : List Tok),
    WF skip m nx e = true → cmdNamesPlain e = true → envNamesPlain e = true → SQ qc qe skip →
    tree (setArgs (SetA.ofQ qc qe i1 i2 i3 i4) e) =
      mapSel (argSel qc qe i1 i2 i3 i4) (argTop (i1 ++ (i2 ++ (i3 ++ i4)))) (tree e) :=
  tree_setArgs_all.1
theorem trees_setArgs : ∀ (es : List Elem) (skip : List Str) (m : Mode) (ctx : Ctx) (nx : List Tok),
    WFs skip m ctx nx es = true → cmdNamesPlainS es = true → envNamesPlainS es = true → SQ qc qe skip →
    trees (setArgsS (SetA.ofQ qc qe i1 i2 i3 i4) es) =
      mapSelL (argSel qc qe i1 i2 i3 i4) (argTop (i1 ++ (i2 ++ (i3 ++ i4)))) (trees es) :=
  tree_setArgs_all.2.2.1
theorem treeArg_setArgs : ∀ (a : Arg) (m : Mode) (k gk : GKind),
    WFarg m k a = true → cmdNamesPlainArg a = true → envNamesPlainArg a = true →
    ∀ {skip : List Str}, SQ qc qe skip →
    treeArg gk (setArgsArg (SetA.ofQ qc qe i1 i2 i3 i4) a) =
      mapSel (argSel qc qe i1 i2 i3 i4) (argTop (i1 ++ (i2 ++ (i3 ++ i4)))) (treeArg gk a) :=
  fun a m k gk h hc he _ hq => tree_setArgs_all.2.1 a m k h hc he hq.nil gk
theorem treesA_setArgs : ∀ (as : List Arg) (m : Mode) (k gk : GKind),
    WFa m k as = true → cmdNamesPlainA as = true → envNamesPlainA as = true →
    ∀ {skip : List Str}, SQ qc qe skip →
    treesA gk (setArgsA (SetA.ofQ qc qe i1 i2 i3 i4) as) =
      mapSelL (argSel qc qe i1 i2 i3 i4) (argTop (i1 ++ (i2 ++ (i3 ++ i4)))) (treesA gk as) :=
  fun as m k gk h hc he _ hq => tree_setArgs_all.2.2.2 as m k h hc he hq.nil gk

theorem treeD_setArgs {skip : List Str} (d : Doc) (hwf : WFD skip d = true)
    (hc : cmdNamesPlainS d = true) (he : envNamesPlainS d = true) (hq : SQ qc qe skip) :
    treeD (setArgsD (SetA.ofQ qc qe i1 i2 i3 i4) d) =
      mapSelL (argSel qc qe i1 i2 i3 i4) (argTop (i1 ++ (i2 ++ (i3 ++ i4)))) (treeD d) :=
  trees_setArgs d _ _ _ _ hwf hc he hq

theorem envNamesPlainA_iff (as : List Arg) :
    envNamesPlainA as = true ↔ ∀ a ∈ as, envNamesPlainArg a = true := by
  induction as with
  | nil => simp [envNamesPlainA]
  | cons a as ih => simp [envNamesPlainA, ih]

theorem envNamesPlainA_untag_pick (idx : List Nat) (l : List TA)
    (h : ∀ x ∈ l, envNamesPlainArg x.2 = true) : envNamesPlainA (untag (pick idx l)) = true := by
  rw [envNamesPlainA_iff]
  intro a ha
  simp only [untag, List.mem_map] at ha
  obtain ⟨x, hx, rfl⟩ := ha
  have := h x (mem_of_mem_pick hx)
  obtain ⟨k, arg⟩ := x
  cases arg
  simpa [envNamesPlainArg] using this

theorem plain_tag {k : GKind} {as : List Arg} (h : envNamesPlainA as = true) :
    ∀ x ∈ tag k as, envNamesPlainArg x.2 = true := by
  intro x hx
  simp only [tag, List.mem_map] at hx
  obtain ⟨a, ha, rfl⟩ := hx
  exact (envNamesPlainA_iff as).1 h a ha

theorem envNamesPlain_setArgs_all (r : SetA) :
    (∀ e : Elem, envNamesPlain e = true → envNamesPlain (setArgs r e) = true) ∧
    (∀ a : Arg, envNamesPlainArg a = true → envNamesPlainArg (setArgsArg r a) = true) ∧
    (∀ es : List Elem, envNamesPlainS es = true → envNamesPlainS (setArgsS r es) = true) ∧
    (∀ as : List Arg, envNamesPlainA as = true → envNamesPlainA (setArgsA r as) = true) := by
  apply induct
  · intros; rfl
  · intro o b c ib h
    simp only [envNamesPlain] at h
    simp only [setArgs, envNamesPlain]; exact ib h
  · intro k o b c ib h
    simp only [envNamesPlain] at h
    simp only [setArgs, envNamesPlain]; exact ib h
  · intro e n a1 a2 a3 a4 j1 j2 j3 j4 h
    simp only [envNamesPlain, Bool.and_eq_true] at h
    -- the picked groups are among the node's own groups
    have hall : ∀ x ∈ tag .bracket a1 ++ (tag .brace a2 ++ (tag .bracket a3 ++ tag .brace a4)),
        envNamesPlainArg x.2 = true := by
      intro x hx
      simp only [List.mem_append] at hx
      rcases hx with hx | hx | hx | hx
      · exact plain_tag h.1.1.1 x hx
      · exact plain_tag h.1.1.2 x hx
      · exact plain_tag h.1.2 x hx
      · exact plain_tag h.2 x hx
    simp only [setArgs]
    split
    · simp only [envNamesPlain, Bool.and_eq_true]
      exact ⟨⟨⟨envNamesPlainA_untag_pick _ _ hall, envNamesPlainA_untag_pick _ _ hall⟩,
        envNamesPlainA_untag_pick _ _ hall⟩, envNamesPlainA_untag_pick _ _ hall⟩
    · simp only [envNamesPlain, Bool.and_eq_true]
      exact ⟨⟨⟨j1 h.1.1.1, j2 h.1.1.2⟩, j3 h.1.2⟩, j4 h.2⟩
  · intro e n a1 a2 a3 a4 b j1 j2 j3 j4 ib h
    simp only [envNamesPlain, Bool.and_eq_true] at h
    simp only [setArgs, envNamesPlain, Bool.and_eq_true]
    exact ⟨⟨⟨⟨j1 h.1.1.1.1, j2 h.1.1.1.2⟩, j3 h.1.1.2⟩, j4 h.1.2⟩, ib h.2⟩
  · intro e bg nm a2 a3 a4 b e2 en nm2 j2 j3 j4 ib h
    simp only [envNamesPlain, Bool.and_eq_true] at h
    have hall : ∀ x ∈ tag .brace a2 ++ (tag .bracket a3 ++ tag .brace a4),
        envNamesPlainArg x.2 = true := by
      intro x hx
      simp only [List.mem_append] at hx
      rcases hx with hx | hx | hx
      · exact plain_tag h.1.1.1.2 x hx
      · exact plain_tag h.1.1.2 x hx
      · exact plain_tag h.1.2 x hx
    simp only [setArgs]
    split
    · simp only [envNamesPlain, Bool.and_eq_true]
      exact ⟨⟨⟨⟨h.1.1.1.1, envNamesPlainA_untag_pick _ _ hall⟩, envNamesPlainA_untag_pick _ _ hall⟩,
        envNamesPlainA_untag_pick _ _ hall⟩, h.2⟩
    · simp only [envNamesPlain, Bool.and_eq_true]
      exact ⟨⟨⟨⟨h.1.1.1.1, j2 h.1.1.1.2⟩, j3 h.1.1.2⟩, j4 h.1.2⟩, ib h.2⟩
  · intro e bg nm a2 a3 a4 vb e5 j2 j3 j4 h
    simp only [envNamesPlain, Bool.and_eq_true] at h
    simp only [setArgs, envNamesPlain, Bool.and_eq_true]
    exact ⟨⟨⟨h.1.1.1, j2 h.1.1.2⟩, j3 h.1.2⟩, j4 h.2⟩
  · intro sp o b c ib h
    simp only [envNamesPlainArg] at h
    simp only [setArgsArg, envNamesPlainArg]; exact ib h
  · intros; rfl
  · intro e es ie ies _ h
    simp only [envNamesPlainS, Bool.and_eq_true] at h
    simp only [setArgsS_cons, envNamesPlainS, Bool.and_eq_true]
    exact ⟨ie h.1, ies h.2⟩
  · intros; rfl
  · intro a as ia ias h
    simp only [envNamesPlainA, Bool.and_eq_true] at h
    simp only [setArgsA_cons, envNamesPlainA, Bool.and_eq_true]
    exact ⟨ia h.1, ias h.2⟩

theorem envNamesPlain_setArgs (r : SetA) : ∀ e : Elem, envNamesPlain e = true →
    envNamesPlain (setArgs r e) = true :=
  (envNamesPlain_setArgs_all r).1
theorem envNamesPlainS_setArgs (r : SetA) : ∀ es : List Elem, envNamesPlainS es = true →
    envNamesPlainS (setArgsS r es) = true :=
  (envNamesPlain_setArgs_all r).2.2.1
theorem envNamesPlainArg_setArgs (r : SetA) : ∀ a : Arg, envNamesPlainArg a = true →
    envNamesPlainArg (setArgsArg r a) = true :=
  (envNamesPlain_setArgs_all r).2.1
theorem envNamesPlainA_setArgs (r : SetA) : ∀ as : List Arg, envNamesPlainA as = true →
    envNamesPlainA (setArgsA r as) = true :=
  (envNamesPlain_setArgs_all r).2.2.2

end TexSoup.Gram
