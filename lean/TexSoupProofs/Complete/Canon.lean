import TexSoupProofs.Complete.SerTree
import TexSoupProofs.TokLemmas.SepFacts
/-!
# Documents whose tokens come from the tokenizer are canonically spelled

`squeeze` changes neither `canon` nor `envNamesPlain`, so it is enough that the squeezed token list
comes from the tokenizer (`canonD_of_separated_squeeze`).
-/
namespace TexSoup.Gram
open TexSoup

/-- The lexical facts the serialiser relies on: delimiters carry their text, the token after a
backslash has no blanks at its ends. -/
def Spelled (ts : List Tok) : Prop :=
  (∀ t ∈ ts, shapedB t = true) ∧
  (∀ pre esc n r, ts = pre ++ esc :: n :: r → esc.cat = .Escape → strip n.text = n.text)

theorem spelled_of_separated {prev : Option Ch} {ts : List Tok} (h : Separated prev ts) : Spelled ts :=
  ⟨separated_shaped h, separated_escOK h⟩

theorem Spelled.infix {ts : List Tok} (h : Spelled ts) (A l B : List Tok) (he : ts = A ++ (l ++ B)) :
    Spelled l := by
  subst he
  refine ⟨fun t ht => h.1 t (by simp [ht]), ?_⟩
  intro pre esc n r hl hc
  exact h.2 (A ++ pre) esc n (r ++ B) (by rw [hl]; simp) hc

theorem Spelled.left {a b : List Tok} (h : Spelled (a ++ b)) : Spelled a := h.infix [] a b rfl
theorem Spelled.right {a b : List Tok} (h : Spelled (a ++ b)) : Spelled b :=
  h.infix a b [] (by rw [List.append_nil])
theorem Spelled.tail {t : Tok} {r : List Tok} (h : Spelled (t :: r)) : Spelled r := h.right (a := [t])
theorem Spelled.head {t : Tok} {r : List Tok} (h : Spelled (t :: r)) : shapedB t = true :=
  h.1 t List.mem_cons_self

theorem shaped_escape {t : Tok} (h : shapedB t = true) (hc : t.cat = .Escape) : t.text = [92] := by
  unfold shapedB at h; rw [hc] at h; simpa using h
theorem shaped_gbegin {t : Tok} {k : GKind} (h : shapedB t = true) (hc : t.cat = k.tokBegin) :
    t.text = k.open := by
  unfold shapedB at h
  cases k <;> simp only [GKind.tokBegin] at hc <;> rw [hc] at h <;> simpa [GKind.open] using h
theorem shaped_gend {t : Tok} {k : GKind} (h : shapedB t = true) (hc : t.cat = k.tokEnd) :
    t.text = k.close := by
  unfold shapedB at h
  cases k <;> simp only [GKind.tokEnd] at hc <;> rw [hc] at h <;> simpa [GKind.close] using h

theorem nameArg_canon_of (n : NameArg) (hok : n.ok = true) (ho : shapedB n.o = true)
    (hc : shapedB n.c = true) : n.canon = true := by
  simp only [NameArg.ok, Bool.and_eq_true, beq_iff_eq] at hok
  have h1 := shaped_gbegin (k := .brace) ho hok.1.1.1.2
  have h2 := shaped_gend (k := .brace) hc hok.1.1.2
  simp [NameArg.canon, h1, h2, GKind.open, GKind.close]

theorem mem_nameArg_toks (n : NameArg) : n.o ∈ n.toks ∧ n.c ∈ n.toks := by
  simp [NameArg.toks]

theorem canon_of_spelled_all :
    (∀ (e : Elem) (skip : List Str) (m : Mode) (nx : List Tok),
      WF skip m nx e = true → Spelled (toks e) → envNamesPlain e = true → canon e = true) ∧
    (∀ (a : Arg) (m : Mode) (k : GKind),
      WFarg m k a = true → Spelled (toksArg a) → envNamesPlainArg a = true → canonArg k a = true) ∧
    (∀ (es : List Elem) (skip : List Str) (m : Mode) (ctx : Ctx) (nx : List Tok),
      WFs skip m ctx nx es = true → Spelled (toksS es) → envNamesPlainS es = true → canonS es = true) ∧
    (∀ (as : List Arg) (m : Mode) (k : GKind),
      WFa m k as = true → Spelled (toksA as) → envNamesPlainA as = true → canonA k as = true) := by
  -- `shapedB` gives every delimiter token its text, `Spelled.2` the stripped name token
  apply induct
  · intros; simp [canon]
  · intro o b c ib skip m nx hwf hsp hen
    obtain ⟨ho, hc, hwb⟩ := WF_group.1 hwf
    simp only [envNamesPlain] at hen
    simp only [toks] at hsp
    simp only [canon, Bool.and_eq_true, beq_iff_eq]
    exact ⟨⟨shaped_gbegin (k := .brace) hsp.head ho, shaped_gend (k := .brace) hsp.tail.right.head hc⟩,
      ib _ _ _ _ hwb hsp.tail.left hen⟩
  · intro k o b c ib skip m nx hwf hsp hen
    obtain ⟨ho, hc, hwb⟩ := WF_math.1 hwf
    simp only [envNamesPlain] at hen
    simp only [toks] at hsp
    simp only [canon, Bool.and_eq_true, beq_iff_eq]
    exact ⟨⟨text_of_mkindBegin hsp.head ho, text_of_mkindEnd hsp.tail.right.head (by simp [hc])⟩,
      ib _ _ _ _ hwb hsp.tail.left hen⟩
  · intro e n a1 a2 a3 a4 i1 i2 i3 i4 skip m nx hwf hsp hen
    obtain ⟨⟨hesc, _⟩, w1, w2, w3, w4, _⟩ := WF_cmd.1 hwf
    simp only [envNamesPlain, Bool.and_eq_true] at hen
    simp only [toks] at hsp
    have hs := hsp.tail.tail
    simp only [canon, Bool.and_eq_true, beq_iff_eq]
    exact ⟨⟨⟨⟨⟨shaped_escape hsp.head hesc, hsp.2 [] e n _ rfl hesc⟩, i1 _ _ w1 hs.left hen.1.1.1⟩,
      i2 _ _ w2 hs.right.left hen.1.1.2⟩, i3 _ _ w3 hs.right.right.left hen.1.2⟩,
      i4 _ _ w4 hs.right.right.right hen.2⟩
  · intro e n a1 a2 a3 a4 b i1 i2 i3 i4 ib skip m nx hwf hsp hen
    obtain ⟨⟨hesc, _⟩, w1, w2, w3, w4, _, hwb, _⟩ := WF_item.1 hwf
    simp only [envNamesPlain, Bool.and_eq_true] at hen
    simp only [toks] at hsp
    have hs := hsp.tail.tail
    simp only [canon, Bool.and_eq_true, beq_iff_eq]
    exact ⟨⟨⟨⟨⟨⟨shaped_escape hsp.head hesc, hsp.2 [] e n _ rfl hesc⟩,
      i1 _ _ w1 hs.left hen.1.1.1.1⟩, i2 _ _ w2 hs.right.left hen.1.1.1.2⟩,
      i3 _ _ w3 hs.right.right.left hen.1.1.2⟩, i4 _ _ w4 hs.right.right.right.left hen.1.2⟩,
      ib _ _ _ _ hwb hs.right.right.right.right hen.2⟩
  · intro e bg nm a2 a3 a4 b e2 en nm2 i2 i3 i4 ib skip m nx hwf hsp hen
    obtain ⟨⟨hesc, hbg, _⟩, hnm, w2, w3, w4, _, _, hwb, ⟨hesc2, hend⟩, hnm2, hname⟩ := WF_env.1 hwf
    simp only [envNamesPlain, Bool.and_eq_true, beq_iff_eq] at hen
    simp only [toks] at hsp
    have hs := hsp.tail.tail
    have hs2 := hs.right.right.right.right.right
    have cn := nameArg_canon_of nm hnm (hs.left.1 _ (mem_nameArg_toks nm).1)
      (hs.left.1 _ (mem_nameArg_toks nm).2)
    have cn2 := nameArg_canon_of nm2 hnm2 (hs2.tail.tail.1 _ (mem_nameArg_toks nm2).1)
      (hs2.tail.tail.1 _ (mem_nameArg_toks nm2).2)
    simp only [canon, Bool.and_eq_true, beq_iff_eq]
    exact ⟨⟨⟨⟨⟨⟨⟨⟨⟨⟨⟨shaped_escape hsp.head hesc, hbg⟩, cn⟩, hen.1.1.1.1⟩,
      i2 _ _ w2 hs.right.left hen.1.1.1.2⟩, i3 _ _ w3 hs.right.right.left hen.1.1.2⟩,
      i4 _ _ w4 hs.right.right.right.left hen.1.2⟩,
      ib _ _ _ _ hwb hs.right.right.right.right.left hen.2⟩, shaped_escape hs2.head hesc2⟩, hend⟩,
      cn2⟩, by rw [hname, hen.1.1.1.1]⟩
  · intro e bg nm a2 a3 a4 vb e5 i2 i3 i4 skip m nx hwf hsp hen
    obtain ⟨⟨hesc, hbg, _⟩, hnm, w2, w3, w4, _, _, ⟨_, hfl⟩, _⟩ := WF_venv.1 hwf
    simp only [envNamesPlain, Bool.and_eq_true, beq_iff_eq] at hen
    simp only [toks] at hsp
    have hs := hsp.tail.tail
    have cn := nameArg_canon_of nm hnm (hs.left.1 _ (mem_nameArg_toks nm).1)
      (hs.left.1 _ (mem_nameArg_toks nm).2)
    simp only [canon, Bool.and_eq_true, beq_iff_eq]
    exact ⟨⟨⟨⟨⟨⟨⟨shaped_escape hsp.head hesc, hbg⟩, cn⟩, hen.1.1.1⟩,
      i2 _ _ w2 hs.right.left hen.1.1.2⟩, i3 _ _ w3 hs.right.right.left hen.1.2⟩,
      i4 _ _ w4 hs.right.right.right.left hen.2⟩, by rw [hfl, hen.1.1.1]⟩
  · intro sp o b c ib m k hwf hsp hen
    obtain ⟨_, ho, hc, hwb⟩ := WFarg_unfold hwf
    simp only [envNamesPlainArg] at hen
    simp only [toksArg] at hsp
    simp only [canonArg, Bool.and_eq_true, beq_iff_eq]
    exact ⟨⟨shaped_gbegin hsp.right.head ho, shaped_gend hsp.right.tail.right.head hc⟩,
      ib _ _ _ _ hwb hsp.right.tail.left hen⟩
  · intros; simp [canonS]
  · intro e es ie ies _ skip m ctx nx hwf hsp hen
    obtain ⟨h1, _, h3, _⟩ := WFs_cons hwf
    simp only [envNamesPlainS, Bool.and_eq_true] at hen
    rw [toksS_cons] at hsp
    simp only [canonS, Bool.and_eq_true]
    exact ⟨ie _ _ _ h1 hsp.left hen.1, ies _ _ _ _ h3 hsp.right hen.2⟩
  · intros; simp [canonA]
  · intro a as ia ias m k hwf hsp hen
    obtain ⟨h1, h2⟩ := WFa_cons hwf
    simp only [envNamesPlainA, Bool.and_eq_true] at hen
    rw [toksA_cons] at hsp
    simp only [canonA, Bool.and_eq_true]
    exact ⟨ia _ _ h1 hsp.left hen.1, ias _ _ h2 hsp.right hen.2⟩

theorem canon_of_spelled : ∀ (e : Elem) (skip : List Str) (m : Mode) (nx : List Tok),
    WF skip m nx e = true → Spelled (toks e) → envNamesPlain e = true → canon e = true :=
  canon_of_spelled_all.1
theorem canonS_of_spelled : ∀ (es : List Elem) (skip : List Str) (m : Mode) (ctx : Ctx) (nx : List Tok),
    WFs skip m ctx nx es = true → Spelled (toksS es) → envNamesPlainS es = true → canonS es = true :=
  canon_of_spelled_all.2.2.1
theorem canonArg_of_spelled : ∀ (a : Arg) (m : Mode) (k : GKind),
    WFarg m k a = true → Spelled (toksArg a) → envNamesPlainArg a = true → canonArg k a = true :=
  canon_of_spelled_all.2.1
theorem canonA_of_spelled : ∀ (as : List Arg) (m : Mode) (k : GKind),
    WFa m k as = true → Spelled (toksA as) → envNamesPlainA as = true → canonA k as = true :=
  canon_of_spelled_all.2.2.2

theorem canonD_of_separated {skip : List Str} {d : Doc} (hwf : WFD skip d = true)
    (hsep : Separated none (toksD d)) (hen : envNamesPlainS d = true) : canonD d = true :=
  canonS_of_spelled d _ _ _ _ hwf (spelled_of_separated hsep) hen

theorem canon_squeeze_all :
    (∀ e : Elem, canon (squeeze e) = canon e) ∧
    (∀ (a : Arg) (k : GKind), canonArg k (squeezeArg a) = canonArg k a) ∧
    (∀ es : List Elem, canonS (squeezeS es) = canonS es) ∧
    (∀ (as : List Arg) (k : GKind), canonA k (squeezeA as) = canonA k as) := by
  apply induct
  · intro t; simp [squeeze]
  · intro o b c ib; simp [squeeze, canon, ib]
  · intro k o b c ib; simp [squeeze, canon, ib]
  · intro e n a1 a2 a3 a4 i1 i2 i3 i4; simp [squeeze, canon, i1, i2, i3, i4]
  · intro e n a1 a2 a3 a4 b i1 i2 i3 i4 ib; simp [squeeze, canon, i1, i2, i3, i4, ib]
  · intro e bg nm a2 a3 a4 b e2 en nm2 i2 i3 i4 ib
    simp [squeeze, canon, NameArg.squeeze, NameArg.canon, i2, i3, i4, ib]
  · intro e bg nm a2 a3 a4 vb e5 i2 i3 i4
    simp [squeeze, canon, NameArg.squeeze, NameArg.canon, i2, i3, i4]
  · intro sp o b c ib k; simp [squeezeArg, canonArg, ib]
  · simp
  · intro e es ie ies _; simp [canonS, ie, ies]
  · simp
  · intro a as ia ias k; simp [canonA, ia, ias]

theorem canon_squeeze : ∀ e : Elem, canon (squeeze e) = canon e := canon_squeeze_all.1
theorem canonS_squeeze : ∀ es : List Elem, canonS (squeezeS es) = canonS es := canon_squeeze_all.2.2.1
theorem canonArg_squeeze (k : GKind) : ∀ a : Arg, canonArg k (squeezeArg a) = canonArg k a :=
  fun a => canon_squeeze_all.2.1 a k
theorem canonA_squeeze (k : GKind) : ∀ as : List Arg, canonA k (squeezeA as) = canonA k as :=
  fun as => canon_squeeze_all.2.2.2 as k

theorem envNamesPlain_squeeze_all :
    (∀ e : Elem, envNamesPlain (squeeze e) = envNamesPlain e) ∧
    (∀ a : Arg, envNamesPlainArg (squeezeArg a) = envNamesPlainArg a) ∧
    (∀ es : List Elem, envNamesPlainS (squeezeS es) = envNamesPlainS es) ∧
    (∀ as : List Arg, envNamesPlainA (squeezeA as) = envNamesPlainA as) := by
  apply induct
  · intro t; simp [squeeze]
  · intro o b c ib; simp [squeeze, envNamesPlain, ib]
  · intro k o b c ib; simp [squeeze, envNamesPlain, ib]
  · intro e n a1 a2 a3 a4 i1 i2 i3 i4; simp [squeeze, envNamesPlain, i1, i2, i3, i4]
  · intro e n a1 a2 a3 a4 b i1 i2 i3 i4 ib; simp [squeeze, envNamesPlain, i1, i2, i3, i4, ib]
  · intro e bg nm a2 a3 a4 b e2 en nm2 i2 i3 i4 ib
    simp [squeeze, envNamesPlain, NameArg.squeeze, i2, i3, i4, ib]
  · intro e bg nm a2 a3 a4 vb e5 i2 i3 i4
    simp [squeeze, envNamesPlain, NameArg.squeeze, i2, i3, i4]
  · intro sp o b c ib; simp [squeezeArg, envNamesPlainArg, ib]
  · simp
  · intro e es ie ies _; simp [envNamesPlainS, ie, ies]
  · simp
  · intro a as ia ias; simp [envNamesPlainA, ia, ias]

theorem envNamesPlain_squeeze : ∀ e : Elem, envNamesPlain (squeeze e) = envNamesPlain e :=
  envNamesPlain_squeeze_all.1
theorem envNamesPlainS_squeeze : ∀ es : List Elem, envNamesPlainS (squeezeS es) = envNamesPlainS es :=
  envNamesPlain_squeeze_all.2.2.1
theorem envNamesPlainArg_squeeze : ∀ a : Arg, envNamesPlainArg (squeezeArg a) = envNamesPlainArg a :=
  envNamesPlain_squeeze_all.2.1
theorem envNamesPlainA_squeeze : ∀ as : List Arg, envNamesPlainA (squeezeA as) = envNamesPlainA as :=
  envNamesPlain_squeeze_all.2.2.2

theorem canonD_of_separated_squeeze {skip : List Str} {d : Doc} (hwf : WFD skip d = true)
    (hsep : Separated none (toksD (squeezeD d))) (hen : envNamesPlainS d = true) : canonD d = true := by
  have h := canonD_of_separated (WFD_squeeze skip d hwf) hsep
    (by rw [squeezeD, envNamesPlainS_squeeze]; exact hen)
  unfold canonD squeezeD at h
  rw [canonS_squeeze] at h
  exact h

end TexSoup.Gram
