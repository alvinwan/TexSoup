import TexSoupProofs.Complete.Verb
/-!
# Completeness of the reader: the structural induction and the theorems for every reader loop
-/
namespace TexSoup.Gram
open TexSoup

/-- For every element the three facts `ElemOK` (it is read back), `PeekOK` (the look-ahead of
`read_env` succeeds on it) and `GroupArgOK` (a brace group is also read as an argument). One
induction, since each needs the others for the parts: reading an environment body peeks at its
elements, and the peek after a command without arguments reads a following group as an argument. -/
theorem both_all :
    (∀ e : Elem, ElemOK e ∧ PeekOK e ∧ GroupArgOK e) ∧ (∀ a : Arg, AllOK a.body) ∧
    (∀ es : List Elem, AllOK es) ∧ (∀ as : List Arg, ArgsOK as) := by
  apply induct
  · exact fun t => ⟨leaf_ok t, peek_of_no_name rfl, leaf_groupArg t⟩
  · exact fun o b c ib => ⟨group_ok o b c ib, peek_of_no_name rfl, group_groupArg o b c ib⟩
  · exact fun k o b c ib => ⟨math_ok k o b c ib, peek_of_no_name rfl, math_groupArg k o b c⟩
  · exact fun esc name a1 a2 a3 a4 i1 i2 i3 i4 =>
      ⟨cmd_ok esc name a1 a2 a3 a4 i1 i2 i3 i4, cmd_peek esc name a1 a2 a3 a4 i2,
        fun _ _ _ he => by cases he⟩
  · exact fun esc name a1 a2 a3 a4 b i1 i2 i3 i4 ib =>
      ⟨item_ok esc name a1 a2 a3 a4 b i1 i2 i3 i4 ib, item_peek esc name a1 a2 a3 a4 b i2,
        fun _ _ _ he => by cases he⟩
  · exact fun esc bgn nm a2 a3 a4 b esc2 en nm2 i2 i3 i4 ib =>
      ⟨env_ok esc bgn nm a2 a3 a4 b esc2 en nm2 i2 i3 i4 ib,
        env_peek esc bgn nm a2 a3 a4 b esc2 en nm2 i2, fun _ _ _ he => by cases he⟩
  · exact fun esc bgn nm a2 a3 a4 vb e5 i2 i3 i4 =>
      ⟨venv_ok esc bgn nm a2 a3 a4 vb e5 i2 i3 i4, venv_peek esc bgn nm a2 a3 a4 vb e5 i2,
        fun _ _ _ he => by cases he⟩
  · exact fun _ _ b _ ib => ib
  · intro e he; cases he
  · intro e es ie ies _ x hx
    rcases List.mem_cons.mp hx with rfl | h
    · exact ie
    · exact ies x h
  · intro a ha; cases ha
  · intro a as ia ias x hx
    rcases List.mem_cons.mp hx with rfl | h
    · exact ia
    · exact ias x h

theorem elem_both : ∀ e : Elem, ElemOK e ∧ PeekOK e ∧ GroupArgOK e := both_all.1
theorem elems_both : ∀ es : List Elem, AllOK es := both_all.2.2.1
theorem arg_both : ∀ a : Arg, AllOK a.body := both_all.2.1
theorem args_both : ∀ as : List Arg, ArgsOK as := both_all.2.2.2

/-- **Completeness of `read_expr`.** A well-formed element followed by `rest` (whose look-ahead
window enters the well-formedness) is read back as exactly its syntax tree, and `rest` is what
remains; for both tolerance values, with the fuel `3·length + 1` of the remaining input. -/
theorem readExpr_complete (e : Elem) (skip : List Str) (tol : Bool) (m : Mode) (rest : List Tok)
    (f : Nat) (hwf : WF skip m (win rest) e = true) (hf : 3 * (toks e ++ rest).length + 1 ≤ f) :
    readExpr f skip tol m (toks e ++ rest) = .ok (tree e, rest) :=
  (elem_both e).1 skip tol m rest f hwf hf

/-- the loop of `read_arg` -/
theorem group_body_complete (k : GKind) (tol : Bool) (m : Mode) (c : Tok) (hc : c.cat = k.tokEnd)
    (es : List Elem) (hwf : WFs [] m (.grp k) [c] es = true) (rest : List Tok) (f : Nat)
    (hf : 3 * (toksS es ++ c :: rest).length + 2 ≤ f) :
    readArgBody f k tol m (toksS es ++ c :: rest) = .ok (trees es, rest) :=
  readArgBody_complete k tol m c hc es (elems_both es) hwf rest f hf

/-- the loop of `read_math_env` -/
theorem math_body_complete (k : MKind) (tol : Bool) (c : Tok) (hc : c.cat = k.tokEnd)
    (es : List Elem) (hwf : WFs [] .math (.mth k) [c] es = true) (rest : List Tok) (f : Nat)
    (hf : 3 * (toksS es ++ c :: rest).length + 2 ≤ f) :
    readMathBody f k tol (toksS es ++ c :: rest) = .ok (trees es, c :: rest) :=
  readMathBody_complete k tol c hc es (elems_both es) hwf rest f hf

/-- the loop of `read_env`, including the look-ahead that finds `\end{name}` -/
theorem env_body_complete (skip : List Str) (tol : Bool) (m : Mode) (esc2 en : Tok) (nm2 : NameArg)
    (hesc2 : esc2.cat = .Escape) (hen : en.text = sEnd) (hnm2 : nm2.ok = true)
    (es : List Elem) (hwf : WFs skip m .env [esc2, en] es = true) (rest : List Tok) (f : Nat)
    (hf : 3 * (toksS es ++ esc2 :: en :: (nm2.toks ++ rest)).length + 2 ≤ f) :
    readEnvBody f skip tol m (toksS es ++ esc2 :: en :: (nm2.toks ++ rest)) =
      .ok ((trees es, some [nm2.tree]), esc2 :: en :: (nm2.toks ++ rest)) :=
  readEnvBody_complete skip tol m esc2 en nm2 hesc2 hen hnm2 es (elems_both es) hwf rest f hf

/-- the loop of `read_item` -/
theorem item_body_complete (es : List Elem) (rest : List Tok)
    (hwf : WFs [] .nonMath .item (win rest) es = true) (hstop : itemStop rest = true) (f : Nat)
    (hf : 3 * (toksS es ++ rest).length + 2 ≤ f) :
    readItem f (toksS es ++ rest) = .ok (trees es, rest) :=
  readItem_complete es (elems_both es) rest hwf hstop f hf

/-- `read_args`, for every signature -/
theorem args_complete (tol : Bool) (m : Mode) (sg : Int × Int) (a1 a2 a3 a4 : List Arg)
    (w1 : WFa m .bracket a1 = true) (w2 : WFa m .brace a2 = true)
    (w3 : WFa m .bracket a3 = true) (w4 : WFa m .brace a4 = true)
    (rest : List Tok) (hrun : runOK sg a1 a2 a3 a4 rest = true) (f : Nat)
    (hf : 3 * (toksA a1 ++ (toksA a2 ++ (toksA a3 ++ (toksA a4 ++ rest)))).length + 2 ≤ f) :
    readArgs f sg.1 sg.2 tol m (toksA a1 ++ (toksA a2 ++ (toksA a3 ++ (toksA a4 ++ rest)))) =
      .ok (treesA .bracket a1 ++ (treesA .brace a2 ++ (treesA .bracket a3 ++ treesA .brace a4)), rest) :=
  readArgs_run tol m sg a1 a2 a3 a4 (args_both a1) (args_both a2) (args_both a3) (args_both a4)
    w1 w2 w3 w4 rest hrun f hf

/-- `read_tex` with any sufficient fuel -/
theorem readTex_complete' (skip : List Str) (tol : Bool) (d : Doc) (hwf : WFD skip d = true) (f : Nat)
    (hf : 3 * (toksD d).length + 2 ≤ f) : readTex f skip tol (toksD d) = .ok (treeD d) :=
  readTex_complete skip tol d (elems_both d) hwf f hf

/-- **Well-formed documents parse, and the tree is the syntax tree.** With the fuel the parser
actually uses. -/
theorem document_complete (skip : List Str) (tol : Bool) (d : Doc) (hwf : WFD skip d = true) :
    readTex (parseFuel (toksD d)) skip tol (toksD d) = .ok (treeD d) :=
  readTex_complete' skip tol d hwf _ (by unfold parseFuel; omega)

end TexSoup.Gram
