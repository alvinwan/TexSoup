import TexSoupProofs.Complete.Seq
/-!
# Completeness of the reader: argument runs (`read_arg_optional`, `read_arg_required`, `read_args`)
-/
namespace TexSoup.Gram
open TexSoup

theorem tokBegin_ne_sp (k : GKind) : k.tokBegin ≠ .MergedSpacer := by cases k <;> decide

theorem afterSp_arg {sp : Option Tok} {o : Tok} (r : List Tok) (hs : spOK sp = true)
    (ho : o.cat ≠ .MergedSpacer) : (readSpacer (sp.toList ++ o :: r)).2 = o :: r := by
  cases sp with
  | none =>
    simp only [Option.toList, List.nil_append, readSpacer]
    rw [if_neg (by simpa using ho)]
  | some s =>
    simp only [spOK, beq_iff_eq] at hs
    simp only [Option.toList, List.cons_append, List.nil_append, readSpacer, hs, beq_self_eq_true, if_true]

theorem WFarg_unfold {m : Mode} {k : GKind} {sp : Option Tok} {o : Tok} {b : List Elem} {c : Tok}
    (h : WFarg m k (.mk sp o b c) = true) :
    spOK sp = true ∧ o.cat = k.tokBegin ∧ c.cat = k.tokEnd ∧ WFs [] m (.grp k) [c] b = true := by
  simp only [WFarg, Bool.and_eq_true, beq_iff_eq] at h
  exact ⟨h.1.1.1, h.1.1.2, h.1.2, h.2⟩

theorem WFa_cons {m : Mode} {k : GKind} {a : Arg} {as : List Arg} (h : WFa m k (a :: as) = true) :
    WFarg m k a = true ∧ WFa m k as = true := by
  simpa [WFa] using h

theorem hdCat_afterSp_run {m : Mode} {k : GKind} {a : Arg} {as : List Arg} (Y : List Tok)
    (h : WFa m k (a :: as) = true) : hdCat (afterSp (toksA (a :: as) ++ Y)) = some k.tokBegin := by
  obtain ⟨ha, _⟩ := WFa_cons h
  cases a with
  | mk sp o b c =>
    obtain ⟨hs, ho, _, _⟩ := WFarg_unfold ha
    simp only [toksA_cons, toksArg, List.append_assoc, List.cons_append, afterSp]
    rw [afterSp_arg _ hs (by rw [ho]; exact tokBegin_ne_sp k)]
    simp only [hdCat, ho]

theorem nextIs_run {m : Mode} {k : GKind} {a : Arg} {as : List Arg} (Y : List Tok)
    (h : WFa m k (a :: as) = true) (ht : tight (a :: as) = true) :
    nextIs k.tokBegin (toksA (a :: as) ++ Y) = true := by
  obtain ⟨ha, _⟩ := WFa_cons h
  cases a with
  | mk sp o b c =>
    obtain ⟨_, ho, _, _⟩ := WFarg_unfold ha
    simp only [tight, Option.isNone_iff_eq_none] at ht
    subst ht
    simp only [toksA_cons, toksArg, Option.toList, List.nil_append, List.cons_append, nextIs, ho,
      beq_self_eq_true]

/-- What `read_arg_optional` and `read_arg_required` have in common on a run of groups of kind
`k`: `R` returns at count zero, stops where `stop` holds of the remaining count and the following
tokens, and otherwise reads a group (after an optional spacer) and goes on. -/
structure RunReader (k : GKind) (R : Nat → Int → Bool → Mode → List Tok → Res (List Expr × Int))
    (stop : Int → List Tok → Prop) : Prop where
  zero : ∀ g tol m X, R (g + 1) 0 tol m X = .ok (([], 0), X)
  stop : ∀ g n tol m X, n ≠ 0 → stop n X → R (g + 1) n tol m X = .ok (([], n), X)
  step : ∀ g n tol m sp (o : Tok) r x ts1 gn ts2, n ≠ 0 → spOK sp = true → o.cat = k.tokBegin →
    readArg g k o.pos tol m r = .ok (x, ts1) → R g (n - 1) tol m ts1 = .ok (gn, ts2) →
    R (g + 1) n tol m (sp.toList ++ o :: r) = .ok ((x :: gn.1, gn.2), ts2)

theorem optReader : RunReader .bracket readArgOpt
    fun _ X => (hdCat (afterSp X) != some .BracketBegin) = true where
  zero _ _ _ _ := readArgOpt.zero rfl
  stop _ _ _ _ X h0 h := readArgOpt.none (by simpa using h0) fun o r hs => by
    simpa [afterSp, hs, hdCat] using h
  step _ _ _ _ _ _ _ _ _ _ _ h0 hsp ho hg hn :=
    readArgOpt.group (by simpa using h0) (afterSp_arg _ hsp (by rw [ho]; decide)) (by rw [ho]; rfl) hg hn

/-- `read_arg_required` stops, with an open (negative) count, where no `{` follows (after a
spacer). -/
theorem reqReader : RunReader .brace readArgReq
    fun n X => n < 0 ∧ (hdCat (afterSp X) != some .GroupBegin) = true where
  zero _ _ _ _ := readArgReq.zero rfl
  stop _ n _ _ X h0 h := readArgReq.none (by simpa using h0) fun o r hs =>
    ⟨by simpa [afterSp, hs, hdCat] using h.2, by omega⟩
  step _ _ _ _ _ _ _ _ _ _ _ h0 hsp ho hg hn :=
    readArgReq.group (by simpa using h0) (afterSp_arg _ hsp (by rw [ho]; decide)) (by rw [ho]; rfl) hg hn

variable {k : GKind} {R : Nat → Int → Bool → Mode → List Tok → Res (List Expr × Int)}
  {stop : Int → List Tok → Prop} (hR : RunReader k R stop) (tol : Bool) (m : Mode)
include hR

theorem run_complete : ∀ (as : List Arg), ArgsOK as → WFa m k as = true →
    ∀ (n : Int) (X : List Tok) (f : Nat), (n < 0 ∨ (as.length : Int) ≤ n) →
    (n - as.length = 0 ∨ stop (n - as.length) X) → 3 * (toksA as ++ X).length + 1 ≤ f →
    R f n tol m (toksA as ++ X) = .ok ((treesA k as, n - as.length), X) := by
  intro as
  induction as with
  | nil =>
    intro _ _ n X f _ hst hf
    obtain ⟨g, rfl⟩ := succ_of_le hf
    simp only [toksA_nil, List.nil_append, treesA_nil, List.length_nil, Int.natCast_zero,
      Int.sub_zero] at hst ⊢
    by_cases h0 : n = 0
    · rw [h0]; exact hR.zero g tol m X
    · exact hR.stop g n tol m X h0 (hst.resolve_left h0)
  | cons a as ih =>
    intro hok hwf n X f hn hst hf
    obtain ⟨g, rfl⟩ := succ_of_le hf
    obtain ⟨hwa, hws⟩ := WFa_cons hwf
    cases a with
    | mk sp o b c =>
      obtain ⟨hsp, ho, hc, hwb⟩ := WFarg_unfold hwa
      simp only [toksA_cons, toksArg, List.append_assoc, List.cons_append, List.nil_append,
        treesA_cons, treeArg, List.length_cons, List.length_append] at hf hn hst ⊢
      have e : n - 1 - (as.length : Int) = n - ((as.length + 1 : Nat) : Int) := by omega
      rw [← e] at hst ⊢
      exact hR.step g n tol m sp o _ _ _ _ _ (by omega) hsp ho
        (readArg_complete k o.pos tol m c hc b hok.head hwb (toksA as ++ X) g
          (by simp only [List.length_append, List.length_cons]; omega))
        (ih hok.tail hws (n - 1) X g (by omega) hst (by simp only [List.length_append]; omega))

/-- The continuation phases of `read_args`: more groups of kind `k` only if one follows directly. -/
theorem phase_complete (as : List Arg) (hok : ArgsOK as) (hwf : WFa m k as = true) (n : Int)
    (Y : List Tok) (g : Nat) (hn : n < 0 ∨ (as.length : Int) ≤ n)
    (hnil : as = [] → (n = 0 ∨ nextIs k.tokBegin Y = false))
    (hcons : as ≠ [] → tight as = true ∧ (n - as.length = 0 ∨ stop (n - as.length) Y))
    (hf : 3 * (toksA as ++ Y).length + 1 ≤ g) :
    (if nextIs k.tokBegin (toksA as ++ Y) = true then R g n tol m (toksA as ++ Y)
      else .ok (([], n), toksA as ++ Y)) = .ok ((treesA k as, n - as.length), Y) := by
  cases as with
  | nil =>
    simp only [toksA_nil, List.nil_append, treesA_nil, List.length_nil, Int.natCast_zero, Int.sub_zero]
    rcases hnil rfl with h | h
    · subst h
      obtain ⟨g', rfl⟩ := succ_of_le hf
      rw [hR.zero]; simp
    · rw [h]; simp
  | cons a as' =>
    obtain ⟨ht, hst⟩ := hcons (by simp)
    rw [if_pos (nextIs_run Y hwf ht)]
    exact run_complete hR tol m (a :: as') hok hwf n Y g hn hst hf

end TexSoup.Gram
