import TexSoupProofs.Complete.MapSel
/-!
# `renameTree` and the edit `node.name = new` of the edit model

If the selection `(qc, qe)` hits exactly one node of a tree (`selCountL … = 1`) and that node
stands at path `p`, then `renameTreeL` is the edit `.rename p new` of `TexSoupModel/Edit.lean`
(`applyEdit_rename_eq`). `renameTree` is `mapSel` with itself as the node map
(`mapSel_renameTree`), so this is a case of `applyEdit_mapSel`. Pure tree algebra, no grammar.
-/
namespace TexSoup
open TexSoup

variable (qc : Str → Int → Bool) (newc : Str) (qe : Str → Int → Bool) (newe : Str)

def selQ : Expr → Bool
  | .cmd n _ _ p => qc n p
  | .nenv n _ _ p => qe n p
  | _ => false

mutual
def selCount : Expr → Nat
  | .text _ _ => 0
  | .cmd n a b p => (if qc n p then 1 else 0) + (selCountL a + selCountL b)
  | .nenv n a b p => (if qe n p then 1 else 0) + (selCountL a + selCountL b)
  | .math _ b _ => selCountL b
  | .group _ b _ => selCountL b
def selCountL : List Expr → Nat
  | [] => 0
  | e :: es => selCount e + selCountL es
end

theorem selCount_eq_cntSel :
    (∀ e, selCount qc qe e = cntSel (selQ qc qe) e) ∧ (∀ es, selCountL qc qe es = cntSelL (selQ qc qe) es) := by
  apply Expr.induct
  · intros; simp [selCount, cntSel, selQ]
  · intro n a b p ia ib
    by_cases h : qc n p = true <;> simp [selCount, cntSel, selQ, ia, ib, h]
  · intro n a b p ia ib
    by_cases h : qe n p = true <;> simp [selCount, cntSel, selQ, ia, ib, h]
  · intro k b p ib; simp [selCount, cntSel, selQ, ib]
  · intro k b p ib; simp [selCount, cntSel, selQ, ib]
  · simp [selCountL]
  · intro e es ie ies; simp [selCountL, ie, ies]

/-- `renameTree` descends into renamed nodes, `mapSel` does not: it hands them to `renameTree` -/
theorem mapSel_renameTree :
    (∀ e, mapSel (selQ qc qe) (renameTree qc newc qe newe) e = renameTree qc newc qe newe e) ∧
    (∀ es, mapSelL (selQ qc qe) (renameTree qc newc qe newe) es = renameTreeL qc newc qe newe es) := by
  apply Expr.induct
  · intros; simp [mapSel, selQ, renameTree]
  · intro n a b p ia ib
    by_cases h : qc n p = true <;> simp [mapSel, selQ, renameTree, h, ia, ib]
  · intro n a b p ia ib
    by_cases h : qe n p = true <;> simp [mapSel, selQ, renameTree, h, ia, ib]
  · intro k b p ib; simp [mapSel, selQ, renameTree, ib]
  · intro k b p ib; simp [mapSel, selQ, renameTree, ib]
  · simp [renameTreeL]
  · intro e es ie ies; simp [renameTreeL, ie, ies]

theorem renameTreeL_id (es : List Expr) (h : cntSelL (selQ qc qe) es = 0) :
    renameTreeL qc newc qe newe es = es := by
  rw [← (mapSel_renameTree qc newc qe newe).2, mapSelL_id _ _ es h]

def Target (nm : Str) (t : Expr) : Prop :=
  (∃ n a b p, t = .cmd n a b p ∧ qc n p = true ∧ nm = newc) ∨
  (∃ n a b p, t = .nenv n a b p ∧ qe n p = true ∧ nm = newe)

theorem Target.sel {nm : Str} {t : Expr} (h : Target qc newc qe newe nm t) : selQ qc qe t = true := by
  rcases h with ⟨n, a, b, p, rfl, hq, _⟩ | ⟨n, a, b, p, rfl, hq, _⟩ <;> exact hq

/-- on the only selected node of a tree the edit is `renameTree` -/
theorem target_rename {nm : Str} {t : Expr} (h : Target qc newc qe newe nm t)
    (hc : cntSel (selQ qc qe) t ≤ 1) : renameE nm t = some (renameTree qc newc qe newe t) := by
  rcases h with ⟨n, a, b, p, rfl, hq, rfl⟩ | ⟨n, a, b, p, rfl, hq, rfl⟩
  · simp only [cntSel, selQ, hq, if_true] at hc
    simp only [renameE, renameTree, hq, if_true, renameTreeL_id qc nm qe newe a (by omega),
      renameTreeL_id qc nm qe newe b (by omega)]
  · simp only [cntSel, selQ, hq, if_true] at hc
    simp only [renameE, renameTree, hq, if_true, renameTreeL_id qc newc qe nm a (by omega),
      renameTreeL_id qc newc qe nm b (by omega)]

/-- **The edit `node.name = nm` of the edit model is `renameTreeL`** when the selection hits
exactly the node at path `p` (and not the root wrapper, which has the empty name at `-1`). -/
theorem applyEdit_rename_eq {nm : Str} (es : List Expr) (p : Path) (t : Expr) (hp : p ≠ [])
    (hget : getAtRoot es p = some t) (ht : Target qc newc qe newe nm t)
    (hc : selCountL qc qe es = 1) (hroot : qe [] (-1) = false) :
    applyEdit es (.rename p nm) = renameTreeL qc newc qe newe es := by
  rw [(selCount_eq_cntSel qc qe).2] at hc
  have hr : cntSel (selQ qc qe) (rootWrap es) = 1 := by simpa [rootWrap, cntSel, selQ, hroot] using hc
  have ht1 : cntSel (selQ qc qe) t ≤ 1 := hr ▸ cntSel_le_of_getAt (selQ qc qe) p _ t hget
  rw [← (mapSel_renameTree qc newc qe newe).2]
  exact applyEdit_mapSel _ _ (by simp [applyEditE, hp]) hget (ht.sel qc newc qe newe)
    (target_rename qc newc qe newe ht ht1) hc (by simp [rootWrap, selQ, hroot])

end TexSoup
