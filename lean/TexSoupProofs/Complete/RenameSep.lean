import TexSoupProofs.Complete.Rename
import TexSoupProofs.Complete.SqueezeSep
import TexSoupProofs.TokLemmas.NameVar
/-!
# The renamed document is again a tokenizer output

If the selected command names and the new command name are command names (`goodName`: a letter,
then letters or `*`), the new one is no sizing prefix, the selected environment names start with
a letter and the new environment name can stand as one text token (`goodText`), then the token
list of `renameD r d` is a name variant (`NVar`) of that of `d`; hence it is `Separated` if that
one is and no command name of `d` is a bare sizing prefix (`separated_rename`), and so is its
squeezed form (`separated_squeeze_rename`).
-/
namespace TexSoup.Gram
open TexSoup

structure Ren.SepOK (r : Ren) : Prop where
  cmd : ∀ esc n, r.pc esc n = true →
    goodName n.text = true ∧ goodName r.newc = true ∧ r.newc ∉ Tables.sizePrefix
  env : ∀ esc nt, r.pe esc nt = true →
    (∃ c b, nt.text = c :: b ∧ catOf c = .Letter) ∧ goodText r.newe = true

theorem spaceChars_not_letter : ∀ c ∈ Tables.spaceChars, catOf c ≠ .Letter := by decide +kernel

theorem not_space_of_letter {c : Ch} (h : catOf c = .Letter) : isSpaceCh c = false := by
  cases hs : isSpaceCh c with
  | false => rfl
  | true =>
    simp only [isSpaceCh, List.contains_iff_mem] at hs
    exact absurd h (spaceChars_not_letter c hs)

theorem dropWhileSpace_snoc (c : Ch) (hc : isSpaceCh c = false) :
    ∀ x : Str, ∃ y, dropWhileSpace (x ++ [c]) = y ++ [c]
  | [] => ⟨[], by simp [dropWhileSpace, hc]⟩
  | a :: x => by
      by_cases ha : isSpaceCh a = true
      · obtain ⟨y, hy⟩ := dropWhileSpace_snoc c hc x
        exact ⟨y, by simp [dropWhileSpace, ha, hy]⟩
      · exact ⟨a :: x, by simp [dropWhileSpace, ha]⟩

theorem strip_letter_start (c : Ch) (body : Str) (hc : catOf c = .Letter) :
    ∃ c' b', strip (c :: body) = c' :: b' ∧ catOf c' = .Letter := by
  have hs := not_space_of_letter hc
  obtain ⟨y, hy⟩ := dropWhileSpace_snoc c hs body.reverse
  refine ⟨c, y.reverse, ?_, hc⟩
  have h1 : dropWhileSpace (c :: body) = c :: body := by simp [dropWhileSpace, hs]
  simp only [strip, h1, List.reverse_cons, hy]
  simp

theorem nvar_nameArg {r : Ren} (hr : r.SepOK) (esc : Tok) (nt0 : Tok) (nm : NameArg)
    (hok : nm.ok = true)
    (hl : ∀ c body, nt0.text = c :: body → catOf c = .Letter →
      ∃ c' b', nm.nt.text = c' :: b' ∧ catOf c' = .Letter) :
    NVar nm.toks (r.envName (r.pe esc nt0) nm).toks := by
  by_cases hp : r.pe esc nt0 = true
  · obtain ⟨⟨c, body, htx, hcl⟩, hg⟩ := hr.env esc nt0 hp
    simp only [NameArg.ok, Bool.and_eq_true, beq_iff_eq] at hok
    simp only [hp, Ren.envName, if_true, NameArg.toks]
    exact (NVar.refl _).append
      (.envn nm.o nm.nt _ hok.1.1.1.2 rfl (hl c body htx hcl) hg (NVar.refl _))
  · have hp' : r.pe esc nt0 = false := by simpa using hp
    simp only [hp', Ren.envName]
    exact NVar.refl _

theorem nvar_rename_all {r : Ren} (hr : r.SepOK) :
    (∀ (e : Elem) (skip : List Str) (m : Mode) (nx : List Tok),
      WF skip m nx e = true → NVar (toks e) (toks (rename r e))) ∧
    (∀ (a : Arg) (m : Mode) (k : GKind),
      WFarg m k a = true → NVar (toksArg a) (toksArg (renameArg r a))) ∧
    (∀ (es : List Elem) (skip : List Str) (m : Mode) (ctx : Ctx) (nx : List Tok),
      WFs skip m ctx nx es = true → NVar (toksS es) (toksS (renameS r es))) ∧
    (∀ (as : List Arg) (m : Mode) (k : GKind),
      WFa m k as = true → NVar (toksA as) (toksA (renameA r as))) := by
  apply induct
  · intros; simp only [rename]; exact NVar.refl _
  · intro o b c ib _ _ _ h
    simp only [rename, toks]
    exact .same o ((ib _ _ _ _ (WF_group.1 h).2.2).append (NVar.refl _))
  · intro k o b c ib _ _ _ h
    simp only [rename, toks]
    exact .same o ((ib _ _ _ _ (WF_math.1 h).2.2).append (NVar.refl _))
  · intro e n a1 a2 a3 a4 i1 i2 i3 i4 _ _ _ h
    obtain ⟨⟨hesc, _⟩, w1, w2, w3, w4, _⟩ := WF_cmd.1 h
    have hrest := (i1 _ _ w1).append ((i2 _ _ w2).append ((i3 _ _ w3).append (i4 _ _ w4)))
    simp only [rename, toks]
    by_cases hp : r.pc e n = true
    · obtain ⟨g1, g2, g3⟩ := hr.cmd e n hp
      have hn : r.cmdName e n = { n with text := r.newc } := by simp [Ren.cmdName, hp]
      rw [hn]
      exact .name e n _ hesc rfl g1 g2 g3 hrest
    · have hn : r.cmdName e n = n := by simp [Ren.cmdName, hp]
      rw [hn]
      exact .same e (.same n hrest)
  · intro e n a1 a2 a3 a4 b i1 i2 i3 i4 ib _ _ _ h
    obtain ⟨_, w1, w2, w3, w4, _, hb, _⟩ := WF_item.1 h
    simp only [rename, toks]
    exact .same e (.same n ((i1 _ _ w1).append ((i2 _ _ w2).append
      ((i3 _ _ w3).append ((i4 _ _ w4).append (ib _ _ _ _ hb))))))
  · intro e bg nm a2 a3 a4 b e2 en nm2 i2 i3 i4 ib _ _ _ h
    obtain ⟨_, hnm, w2, w3, w4, _, _, hb, _, hnm2, hname⟩ := WF_env.1 h
    simp only [rename, toks]
    -- the name after `\end` is the stripped name after `\begin`; it starts with a letter if
    -- that one does
    exact .same e (.same bg ((nvar_nameArg hr e nm.nt nm hnm fun c b h1 h2 => ⟨c, b, h1, h2⟩).append
      ((i2 _ _ w2).append ((i3 _ _ w3).append ((i4 _ _ w4).append ((ib _ _ _ _ hb).append
        (.same e2 (.same en (nvar_nameArg hr e nm.nt nm2 hnm2 fun c b h1 h2 => by
          rw [hname, h1]; exact strip_letter_start c b h2)))))))))
  · intro e bg nm a2 a3 a4 vb e5 i2 i3 i4 _ _ _ h
    obtain ⟨_, _, w2, w3, w4, _⟩ := WF_venv.1 h
    simp only [rename, toks]
    exact .same e (.same bg ((NVar.refl _).append ((i2 _ _ w2).append
      ((i3 _ _ w3).append ((i4 _ _ w4).append (NVar.refl _))))))
  · intro sp o b c ib _ _ h
    simp only [WFarg, Bool.and_eq_true] at h
    simp only [renameArg, toksArg]
    exact (NVar.refl _).append (.same o ((ib _ _ _ _ h.2).append (NVar.refl _)))
  · intros; simp; exact .nil
  · intro e es ie ies _ _ _ _ _ h
    obtain ⟨h1, _, h3, _⟩ := WFs_cons h
    simp only [renameS_cons, toksS_cons]
    exact (ie _ _ _ h1).append (ies _ _ _ _ h3)
  · intros; simp; exact .nil
  · intro a as ia ias _ _ h
    obtain ⟨h1, h2⟩ := WFa_cons h
    simp only [renameA_cons, toksA_cons]
    exact (ia _ _ h1).append (ias _ _ h2)

theorem nvar_rename {r : Ren} (hr : r.SepOK) : ∀ (e : Elem) (skip : List Str) (m : Mode) (nx : List Tok),
    WF skip m nx e = true → NVar (toks e) (toks (rename r e)) :=
  (nvar_rename_all hr).1
theorem nvarS_rename {r : Ren} (hr : r.SepOK) : ∀ (es : List Elem) (skip : List Str) (m : Mode) (ctx : Ctx)
    (nx : List Tok), WFs skip m ctx nx es = true → NVar (toksS es) (toksS (renameS r es)) :=
  (nvar_rename_all hr).2.2.1
theorem nvarArg_rename {r : Ren} (hr : r.SepOK) : ∀ (a : Arg) (m : Mode) (k : GKind),
    WFarg m k a = true → NVar (toksArg a) (toksArg (renameArg r a)) :=
  (nvar_rename_all hr).2.1
theorem nvarA_rename {r : Ren} (hr : r.SepOK) : ∀ (as : List Arg) (m : Mode) (k : GKind),
    WFa m k as = true → NVar (toksA as) (toksA (renameA r as)) :=
  (nvar_rename_all hr).2.2.2

theorem separated_rename {r : Ren} {skip : List Str} {d : Doc} (hr : r.SepOK)
    (hwf : WFD skip d = true) (hsep : Separated none (toksD d))
    (hns : ∀ t ∈ toksD d, t.cat = .CommandName → t.text ∉ Tables.sizePrefix) :
    Separated none (toksD (renameD r d)) :=
  (nvarS_rename hr d _ _ _ _ hwf).separated hsep hns

theorem separated_squeeze_rename {r : Ren} {skip : List Str} {d : Doc} (hr : r.SepOK) (hok : r.OK skip)
    (hwf : WFD skip d = true) (hsep : Separated none (toksD d))
    (hns : ∀ t ∈ toksD d, t.cat = .CommandName → t.text ∉ Tables.sizePrefix) :
    Separated none (toksD (squeezeD (renameD r d))) :=
  separated_squeeze (WFD_rename skip d hwf hok) (separated_rename hr hwf hsep hns)
    ((nvarS_rename hr d _ _ _ _ hwf).noBare hsep hns)

end TexSoup.Gram
