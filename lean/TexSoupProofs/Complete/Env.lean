import TexSoupProofs.Complete.Peek
/-!
# Completeness of the reader: named environments (`read_env`, its loop, the `\end` look-ahead)
-/
namespace TexSoup.Gram
open TexSoup

theorem nameArg_toksArg (n : NameArg) : toksArg n.toArg = n.toks := rfl

theorem nameArg_toksA (n : NameArg) (as : List Arg) : toksA (n.toArg :: as) = n.toks ++ toksA as := rfl

theorem nameArg_treesA (n : NameArg) (as : List Arg) :
    treesA .brace (n.toArg :: as) = n.tree :: treesA .brace as := rfl

theorem nameArg_string (n : NameArg) : n.tree.string = n.nt.text := List.append_nil _

theorem nameArg_WFarg (n : NameArg) (h : n.ok = true) (m : Mode) : WFarg m .brace n.toArg = true := by
  simp only [NameArg.ok, Bool.and_eq_true, beq_iff_eq, bne_iff_ne, ne_eq] at h
  obtain ⟨⟨⟨⟨hs, ho⟩, hc⟩, hl⟩, hne⟩ := h
  simp [NameArg.toArg, WFarg, WFs, WF, startOK, firstTok, hs, ho, hc, hl, hne, GKind.tokBegin, GKind.tokEnd]

theorem nameArg_WFa (n : NameArg) (h : n.ok = true) (m : Mode) (as : List Arg)
    (w : WFa m .brace as = true) : WFa m .brace (n.toArg :: as) = true := by
  simp [WFa, nameArg_WFarg n h m, w]

theorem nameArg_ArgsOK (n : NameArg) (as : List Arg) (k : ArgsOK as) : ArgsOK (n.toArg :: as) := by
  intro a ha
  rcases List.mem_cons.mp ha with h | h
  · subst h
    intro e he
    simp only [NameArg.toArg, Arg.body, List.mem_singleton] at he
    subst he
    exact ⟨leaf_ok _, peek_of_no_name rfl, leaf_groupArg _⟩
  · exact k a h

/-- `\end{name}` read with the signature `(1, 0)`: by the look-ahead of the loop and again
when `read_env` consumes it. Nothing after the closing brace is touched. -/
theorem readCommand_endArg (tol : Bool) (m : Mode) (en : Tok) (nm2 : NameArg) (hnm2 : nm2.ok = true)
    (rest : List Tok) (f : Nat) (hf : 3 * (en :: (nm2.toks ++ rest)).length + 3 ≤ f) :
    readCommand f 1 0 tol m (en :: (nm2.toks ++ rest)) = .ok ((en, [nm2.tree]), rest) := by
  have h := readCommand_run tol m 1 0 en [] [nm2.toArg] [] [] .nil (nameArg_ArgsOK nm2 [] .nil) .nil .nil
    (WFa_nil _ _) (nameArg_WFa nm2 hnm2 _ [] (WFa_nil _ _)) (WFa_nil _ _) (WFa_nil _ _)
    rest (by rw [cmdSig_given 1 0 (by omega)]; rfl) f
  simp only [toksA_nil, treesA_nil, nameArg_toksA, nameArg_treesA, List.nil_append, List.append_nil] at h
  exact h hf

/-- What the look-ahead of `read_env` finds after an argument-less command: if it is a brace
group (after an optional spacer), `peekCond` makes it readable as an argument. -/
theorem peek_follow (skip : List Str) (tol : Bool) (m : Mode) (esc name : Tok) (a3 a4 : List Arg)
    (esc2 : Tok) (hesc2 : esc2.cat = .Escape) (nx tailr : List Tok)
    (es : List Elem) (hok : AllOK es) (hws : WFs skip m .env nx es = true)
    (hpc : peekCond m .env (.cmd esc name [] [] a3 a4) es = true) (g : Nat)
    (hg : 3 * (toksS es ++ esc2 :: tailr).length ≤ g) :
    ∀ o r, afterSp (toksS es ++ esc2 :: tailr) = o :: r → o.cat = .GroupBegin →
      ∃ x T', readArg g .brace o.pos tol (cmdMode name.text m) r = .ok (x, T') := by
  intro o r hs ho
  have hend : ∀ {X : List Tok}, esc2 :: tailr = o :: X → False := fun h => by
    rw [← (List.cons.inj h).1, hesc2] at ho; cases ho
  -- an element that starts with `{` is a free group, which can be read as an argument
  have head : ∀ {e : Elem} {es' : List Elem} {nx' : List Tok}, GroupArgOK e → WF skip m nx' e = true →
      toks e ++ (toksS es' ++ esc2 :: tailr) = o :: r → 3 * (o :: r).length ≤ g →
      (∀ b c, e = .group o b c → WFs [] (cmdMode name.text m) (.grp .brace) [c] b = true) →
      ∃ x T', readArg g .brace o.pos tol (cmdMode name.text m) r = .ok (x, T') := by
    intro e es' nx' hgrp hw h hg hb
    obtain ⟨o1, b, c, rfl, hc⟩ := group_of_first hw (by rw [firstTok_of_toks h]; exact ho)
    simp only [toks, List.cons_append, List.append_assoc, List.nil_append, List.cons.injEq] at h
    obtain ⟨rfl, rfl⟩ := h
    refine ⟨_, _, hgrp o1 b c rfl o1.pos tol _ _ g (hb b c rfl) hc ?_⟩
    simp only [List.length_cons, List.length_append] at hg ⊢
    omega
  cases es with
  | nil =>
    rw [toksS_nil, List.nil_append, afterSp_cons_ne _ (by rw [hesc2]; decide)] at hs
    exact (hend hs).elim
  | cons e1 es1 =>
    obtain ⟨hw1, -, hws1, -⟩ := WFs_cons hws
    obtain ⟨r1, hr1⟩ := toks_cons e1
    rw [toksS_cons, List.append_assoc] at hs hg
    by_cases hsp : (firstTok e1).cat = .MergedSpacer
    · obtain ⟨s, rfl⟩ := leaf_of_first_sp hw1 hsp
      replace hsp : s.cat = .MergedSpacer := hsp
      rw [toks, List.singleton_append, afterSp_cons_sp _ hsp] at hs
      rw [toks, List.singleton_append, List.length_cons] at hg
      cases es1 with
      | nil => exact (hend hs).elim
      | cons e2 es2 =>
        rw [toksS_cons, List.append_assoc] at hs hg
        exact head hok.tail.grp (WFs_cons hws1).1 hs (by rw [← hs]; omega) fun b c he => by
          subst he; simpa [peekCond, hsp] using hpc
    · rw [hr1, List.cons_append, afterSp_cons_ne _ hsp, ← List.cons_append, ← hr1] at hs
      exact head hok.grp hw1 hs (by rw [← hs]; exact hg) fun b c he => by
        subst he; simpa [peekCond] using hpc

theorem noArgs_cmd {e : Elem} (h : noArgs e = true) : ∃ esc name a3 a4, e = .cmd esc name [] [] a3 a4 := by
  cases e with
  | cmd esc name a1 a2 a3 a4 =>
    cases a1 with
    | nil =>
      cases a2 with
      | nil => exact ⟨esc, name, a3, a4, rfl⟩
      | cons _ _ => simp [noArgs] at h
    | cons _ _ => simp [noArgs] at h
  | _ => simp [noArgs] at h

/-- The loop of `read_env`: a well-formed body, then the look-ahead finds `\end{name}` and the
loop stops in front of it, handing over the argument of the `\end`. -/
theorem readEnvBody_complete (skip : List Str) (tol : Bool) (m : Mode) (esc2 en : Tok) (nm2 : NameArg)
    (hesc2 : esc2.cat = .Escape) (hen : en.text = sEnd) (hnm2 : nm2.ok = true)
    (es : List Elem) (hok : AllOK es) (hwf : WFs skip m .env [esc2, en] es = true)
    (rest : List Tok) (f : Nat)
    (hf : 3 * (toksS es ++ esc2 :: en :: (nm2.toks ++ rest)).length + 2 ≤ f) :
    readEnvBody f skip tol m (toksS es ++ esc2 :: en :: (nm2.toks ++ rest)) =
      .ok ((trees es, some [nm2.tree]), esc2 :: en :: (nm2.toks ++ rest)) := by
  refine loop_complete (L := fun f ts => readEnvBody f skip tol m ts) (tol := tol)
    (mk := fun l => ((l, some [nm2.tree]), esc2 :: en :: (nm2.toks ++ rest)))
    ((win_esc _ _ hesc2).trans (win_esc _ _ hesc2).symm) (fun g hg => ?_)
    (fun g e es r hok hwf hwe hf hr he hrec => ?_) es hok hwf f hf
  · exact readEnvBody.stop (by rw [hesc2]; rfl)
      (readCommand_endArg tol m en nm2 hnm2 rest g (by simp only [List.length_cons] at hg ⊢; omega))
      (beq_iff_eq.2 hen)
  · obtain ⟨-, hst, hws, hpc⟩ := WFs_cons hwf
    refine readEnvBody.step (fun hesc => ?_) he hrec
    -- the look-ahead reads the command with the signature of `\end`; its name is not `end`
    obtain ⟨g', rfl⟩ : ∃ g', g = g' + 3 := ⟨g - 3, by
      have := fuel_tail hf
      simp only [List.length_append, List.length_cons] at this; omega⟩
    obtain ⟨n, r', args, ts', htk, hnt, hpk⟩ := hok.peek skip tol m _ g' hwe (by simpa using hesc)
      (by omega)
      (by
        intro hna name hname
        obtain ⟨esc, nm, a3, a4, rfl⟩ := noArgs_cmd hna
        obtain rfl : nm.text = name := Option.some.inj hname
        refine peek_follow skip tol m esc nm a3 a4 esc2 hesc2 [esc2, en] _ es hok.tail hws hpc g' ?_
        rw [List.length_append] at hf
        simp only [toks, List.length_cons] at hf
        omega)
    obtain rfl : r = n :: r' := (List.cons.inj (hr.symm.trans htk)).2
    exact ⟨_, _, hpk, by simpa [startOK, hnt] using hst⟩

theorem sBegin_ne_sEnd : (sBegin == sEnd) = false := by decide

/-- `read_command` on `begin{name} args`: the name group is the first argument. -/
theorem readCommand_begin (g : Nat) (tol : Bool) (m : Mode) (bgn : Tok) (nm : NameArg)
    (a2 a3 a4 : List Arg) (k2 : ArgsOK a2) (k3 : ArgsOK a3) (k4 : ArgsOK a4) (hnm : nm.ok = true)
    (w2 : WFa (cmdMode bgn.text m) .brace a2 = true) (w3 : WFa (cmdMode bgn.text m) .bracket a3 = true)
    (w4 : WFa (cmdMode bgn.text m) .brace a4 = true) (Z : List Tok)
    (hrun : runOK (cmdSig (-1) (-1) bgn.text) [] (nm.toArg :: a2) a3 a4 Z = true)
    (hf : 3 * (bgn :: (nm.toks ++ (toksA a2 ++ (toksA a3 ++ (toksA a4 ++ Z))))).length + 3 ≤ g) :
    readCommand g (-1) (-1) tol m (bgn :: (nm.toks ++ (toksA a2 ++ (toksA a3 ++ (toksA a4 ++ Z))))) =
      .ok ((bgn, nm.tree :: (treesA .brace a2 ++ (treesA .bracket a3 ++ treesA .brace a4))), Z) := by
  have h := readCommand_run tol m (-1) (-1) bgn [] (nm.toArg :: a2) a3 a4 .nil (nameArg_ArgsOK nm a2 k2)
    k3 k4 (WFa_nil _ _) (nameArg_WFa nm hnm _ a2 w2) w3 w4 Z hrun g
  simp only [toksA_nil, treesA_nil, List.nil_append, nameArg_toksA, nameArg_treesA, List.append_assoc,
    List.cons_append] at h
  exact h hf

/-- The look-ahead of `read_env` on `\begin{name} …`: the name group is the one argument. -/
theorem begin_peek (tol : Bool) (m : Mode) (bgn : Tok) (nm : NameArg) (a2 a3 a4 : List Arg)
    (k2 : ArgsOK a2) (hnm : nm.ok = true) (w2 : WFa (cmdMode bgn.text m) .brace a2 = true)
    (Z : List Tok) (g : Nat)
    (hg : 3 * (nm.toks ++ (toksA a2 ++ (toksA a3 ++ (toksA a4 ++ Z)))).length + 2 ≤ g) :
    ∃ args T', readCommand (g + 3) 1 0 tol m
      (bgn :: (nm.toks ++ (toksA a2 ++ (toksA a3 ++ (toksA a4 ++ Z))))) = .ok ((bgn, args), T') := by
  have hgrp := peek_run tol (cmdMode bgn.text m) [] (nm.toArg :: a2) a3 a4 (nameArg_ArgsOK nm a2 k2)
    (WFa_nil _ _) (nameArg_WFa nm hnm _ a2 w2) Z (fun _ h => absurd h (List.cons_ne_nil _ _)) g
    (by simp only [nameArg_toksA, toksA_nil, List.nil_append, List.append_assoc]; omega)
  simpa [nameArg_toksArg] using readCommand10_ok g tol m bgn _ (by omega) hgrp

theorem env_ok (esc bgn : Tok) (nm : NameArg) (a2 a3 a4 : List Arg) (b : List Elem)
    (esc2 en : Tok) (nm2 : NameArg)
    (k2 : ArgsOK a2) (k3 : ArgsOK a3) (k4 : ArgsOK a4) (kb : AllOK b) :
    ElemOK (.env esc bgn nm a2 a3 a4 b esc2 en nm2) := by
  intro skip tol m rest f hwf hf
  obtain ⟨⟨hesc, hbg, hms⟩, hnm, w2, w3, w4, hrun, hskip, hwb, ⟨hesc2, hen⟩, hnm2, hname⟩ :=
    WF_env.1 hwf
  have hw : win (toksS b ++ esc2 :: en :: (nm2.toks ++ rest)) = win (toksS b ++ [esc2, en]) := by
    rw [win_append, win_esc _ _ hesc2]
  rw [← hw, runOK_win] at hrun
  simp only [toks, tree, List.cons_append, List.append_assoc, List.length_cons] at hf ⊢
  obtain ⟨g, rfl⟩ : ∃ g, f = g + 2 := ⟨f - 2, by omega⟩
  have hc := readCommand_begin (g + 1) tol m bgn nm a2 a3 a4 k2 k3 k4 hnm w2 w3 w4 _ hrun
    (by simp only [List.length_cons]; omega)
  -- from here on only the tokens from the body onwards count
  replace hf : 3 * (toksS b ++ esc2 :: en :: (nm2.toks ++ rest)).length + 5 ≤ g := by
    simp only [List.length_append (as := nm.toks), List.length_append (as := toksA _)] at hf
    omega
  have henv := readEnv.closed (name := strip nm.nt.text) (pos := esc.pos)
    (args := treesA .brace a2 ++ (treesA .bracket a3 ++ treesA .brace a4))
    (readEnvBody_complete skip tol (envMode (strip nm.nt.text) m) esc2 en nm2 hesc2 hen hnm2 b kb hwb
      rest g (by omega))
    (by simp [envError, nameArg_string, hname])
    (readCommand_endArg tol _ en nm2 hnm2 rest g
      (by simp only [List.length_cons, List.length_append] at hf ⊢; omega))
  exact readExpr.env (by rw [hesc]; rfl) (by rw [hesc]; rfl) hc (by rw [hbg]; decide)
    (by simpa [hbg] using hms) rfl (by rw [nameArg_string]; simpa using hskip)
    (by rw [nameArg_string]; exact henv)

theorem env_peek (esc bgn : Tok) (nm : NameArg) (a2 a3 a4 : List Arg) (b : List Elem)
    (esc2 en : Tok) (nm2 : NameArg) (k2 : ArgsOK a2) :
    PeekOK (.env esc bgn nm a2 a3 a4 b esc2 en nm2) := by
  intro skip tol m rest g hwf _ hf _
  obtain ⟨_, hnm, w2, _⟩ := WF_env.1 hwf
  simp only [toks, List.cons_append, List.append_assoc, List.length_cons] at hf
  obtain ⟨args, T', hr⟩ := begin_peek tol m bgn nm a2 a3 a4 k2 hnm w2 (toksS b ++ esc2 :: en :: (nm2.toks ++ rest)) g (by omega)
  exact ⟨bgn, _, args, T', by simp only [toks, firstTok]; rfl, rfl, by simpa using hr⟩

end TexSoup.Gram
