import TexSoupModel.GrammarEdit
import TexSoupProofs.Complete.Main
/-!
# `node.string = s` keeps a document well-formed

`setStr r` replaces the contents of the single argument group of the selected commands, resp.
the one-leaf body of the selected argument-less environments, by one leaf `r.tk`. If that leaf
is a text token (`r.tk.cat = .Text`) every frame condition still holds (`WFD_setStr`): a text
token is a leaf, it closes no group and ends no body, and behind `\begin{name}` it starts no
further argument.
-/
namespace TexSoup.Gram
open TexSoup

@[simp] theorem setStrS_nil (r : SetS) : setStrS r [] = [] := by simp [setStrS]
@[simp] theorem setStrS_cons (r : SetS) (e : Elem) (es : List Elem) :
    setStrS r (e :: es) = setStr r e :: setStrS r es := by simp [setStrS]
@[simp] theorem setStrA_nil (r : SetS) : setStrA r [] = [] := by simp [setStrA]
@[simp] theorem setStrA_cons (r : SetS) (a : Arg) (as : List Arg) :
    setStrA r (a :: as) = setStrArg r a :: setStrA r as := by simp [setStrA]

theorem setStrA_length (r : SetS) (as : List Arg) : (setStrA r as).length = as.length := by
  induction as with
  | nil => simp
  | cons a as ih => simp [ih]

theorem tight_setStrA (r : SetS) (as : List Arg) : tight (setStrA r as) = tight as := by
  cases as with
  | nil => rfl
  | cons a as => cases a; simp [setStrArg, tight]

theorem tight_setLeaf (tk : Tok) (as : List Arg) : tight (as.map (Arg.setLeaf tk)) = tight as := by
  cases as with
  | nil => rfl
  | cons a as => cases a; simp [Arg.setLeaf, tight]

theorem runOK_setStr (r : SetS) {sg : Int × Int} {a1 a2 a3 a4 : List Arg} {nx : List Tok}
    (h : runOK sg a1 a2 a3 a4 nx = true) :
    runOK sg (setStrA r a1) (setStrA r a2) (setStrA r a3) (setStrA r a4) nx = true :=
  runOK_congr (setStrA_length r a1) (setStrA_length r a2) (setStrA_length r a3) (setStrA_length r a4)
    (tight_setStrA r a3).trans (tight_setStrA r a4).trans h

theorem runOK_setStr_env (r : SetS) {sg : Int × Int} {x : Arg} {a2 a3 a4 : List Arg} {nx : List Tok}
    (h : runOK sg [] (x :: a2) a3 a4 nx = true) :
    runOK sg [] (x :: setStrA r a2) (setStrA r a3) (setStrA r a4) nx = true :=
  runOK_congr (a2 := x :: a2) rfl (congrArg Nat.succ (setStrA_length r a2)) (setStrA_length r a3)
    (setStrA_length r a4) (tight_setStrA r a3).trans (tight_setStrA r a4).trans h

theorem firstTok_setStr (r : SetS) (e : Elem) : firstTok (setStr r e) = firstTok e := by
  cases e with
  | cmd e n a1 a2 a3 a4 => simp only [setStr]; split <;> rfl
  | env e bg nm a2 a3 a4 b e2 en nm2 => simp only [setStr]; split <;> rfl
  | _ => rfl

theorem nameText_setStr (r : SetS) (e : Elem) : nameText (setStr r e) = nameText e := by
  cases e with
  | cmd e n a1 a2 a3 a4 => simp only [setStr]; split <;> rfl
  | env e bg nm a2 a3 a4 b e2 en nm2 => simp only [setStr]; split <;> rfl
  | _ => rfl

theorem startOK_setStr (r : SetS) (ctx : Ctx) (e : Elem) : startOK ctx (setStr r e) = startOK ctx e :=
  startOK_congr (congrArg Tok.cat (firstTok_setStr r e)) fun _ _ => by rw [nameText_setStr]

theorem sameHead_setStr (r : SetS) {skip : List Str} {m : Mode} {nx : List Tok} {e : Elem}
    (hwf : WF skip m nx e = true) : SameHead e (setStr r e) := by
  refine .of_wf hwf (congrArg Tok.cat (firstTok_setStr r e)) (fun t h => by rw [h]; exact ⟨t, rfl, rfl⟩)
    fun s hs => ?_
  cases e with
  | cmd esc n a1 a2 a3 a4 | env esc n nm a2 a3 a4 b e2 en nm2 =>
    simp only [setStr]
    split <;> exact ⟨n, n, _, _, rfl, rfl, rfl, rfl⟩
  | item esc n a1 a2 a3 a4 b | venv esc n nm a2 a3 a4 vb e5 => exact ⟨n, n, _, _, rfl, rfl, rfl, rfl⟩
  | _ => cases hs

theorem key3_setStrS (r : SetS) : ∀ (es : List Elem) {skip : List Str} {m : Mode} {ctx : Ctx}
    {nx0 : List Tok}, WFs skip m ctx nx0 es = true → ∀ {X X' : List Tok}, key3 X' = key3 X →
    key3 (win (toksS (setStrS r es) ++ X')) = key3 (win (toksS es ++ X)) :=
  SameHead.seq (setStrS_nil r) (setStrS_cons r) (sameHead_setStr r)

theorem noArgName_setStr (r : SetS) (e : Elem) : noArgName (setStr r e) = noArgName e := by
  cases e with
  | cmd esc name a1 a2 a3 a4 =>
    simp only [setStr]
    split <;> cases a1 <;> cases a2 <;> simp [noArgName]
  | env e bg nm a2 a3 a4 b e2 en nm2 => simp only [setStr]; split <;> rfl
  | _ => rfl

theorem nextGroup_setStr (r : SetS) (es : List Elem) :
    nextGroup (setStrS r es) = (nextGroup es).map fun bc => (setStrS r bc.1, bc.2) := by
  cases es with
  | nil => simp [nextGroup]
  | cons e1 es1 =>
    cases e1 with
    | group o b c => simp [setStr, nextGroup]
    | leaf s =>
      cases es1 with
      | nil => simp [setStr, nextGroup]
      | cons e2 es2 =>
        cases e2 with
        | group o b c => simp [setStr, nextGroup]
        | cmd e n a1 a2 a3 a4 => simp only [setStrS_cons, setStr]; split <;> simp [nextGroup]
        | env e bg nm a2 a3 a4 b e2 en nm2 => simp only [setStrS_cons, setStr]; split <;> simp [nextGroup]
        | _ => simp [setStr, nextGroup]
    | cmd e n a1 a2 a3 a4 => simp only [setStrS_cons, setStr]; split <;> simp [nextGroup]
    | env e bg nm a2 a3 a4 b e2 en nm2 => simp only [setStrS_cons, setStr]; split <;> simp [nextGroup]
    | _ => simp [setStr, nextGroup]

theorem leafTok_text {tk : Tok} (h : tk.cat = .Text) : leafTok tk = true := by
  simp [leafTok, h, mkindOfBegin]

theorem WFs_leaf_grp {tk : Tok} (h : tk.cat = .Text) (m : Mode) (k : GKind) (nx : List Tok) :
    WFs [] m (.grp k) nx [.leaf tk] = true := by
  cases k <;> simp [WFs, WF, leafTok_text h, startOK, firstTok, h, GKind.tokEnd]

theorem WFs_leaf_env {tk : Tok} (h : tk.cat = .Text) (skip : List Str) (m : Mode) (nx : List Tok) :
    WFs skip m .env nx [.leaf tk] = true := by
  simp [WFs, WF, leafTok_text h, startOK, nameText]

theorem WFa_setLeaf {tk : Tok} (h : tk.cat = .Text) : ∀ (as : List Arg) (m : Mode) (k : GKind),
    WFa m k as = true → WFa m k (as.map (Arg.setLeaf tk)) = true
  | [], _, _, _ => by simp
  | .mk sp o b c :: as, m, k, hw => by
      obtain ⟨h1, h2⟩ := WFa_cons hw
      simp only [WFarg, Bool.and_eq_true] at h1
      simp only [List.map_cons, Arg.setLeaf, WFa, WFarg, Bool.and_eq_true]
      exact ⟨⟨h1.1, WFs_leaf_grp h m k _⟩, WFa_setLeaf h as m k h2⟩

/-- behind `\begin{name}` a text token starts no further argument -/
theorem runOK_text_next {sg : Int × Int} {x : Arg} {nx : List Tok} (tk : Tok) (r : List Tok)
    (htk : tk.cat = .Text) (h : runOK sg [] [x] [] [] nx = true) :
    runOK sg [] [x] [] [] (win (tk :: r)) = true := by
  have hw : win (tk :: r) = [tk] := by simp [win, htk]
  rw [hw]
  unfold runOK at h ⊢
  by_cases hneg : (decide (sg.1 < 0) && decide (sg.2 < 0)) = true
  · rw [if_pos hneg]
    simp [tight, hdCat, afterSp, readSpacer, htk]
  · rw [if_neg hneg] at h ⊢
    by_cases hpos : (decide (0 ≤ sg.1) && decide (0 ≤ sg.2)) = true
    · rw [if_pos hpos] at h ⊢
      simp only [Bool.and_eq_true] at h ⊢
      exact ⟨h.1, by simp [hdCat, htk]⟩
    · rw [if_neg hpos] at h; cases h

theorem WF_setStr_all {r : SetS} (htk : r.tk.cat = .Text) :
    (∀ (e : Elem) (skip : List Str) (m : Mode) (nx nx' : List Tok),
      WF skip m nx e = true → key3 nx' = key3 nx → WF skip m nx' (setStr r e) = true) ∧
    (∀ (a : Arg) (m : Mode) (k : GKind), WFarg m k a = true → WFarg m k (setStrArg r a) = true) ∧
    (∀ (es : List Elem) (skip : List Str) (m : Mode) (ctx : Ctx) (nx nx' : List Tok),
      WFs skip m ctx nx es = true → key3 nx' = key3 nx → WFs skip m ctx nx' (setStrS r es) = true) ∧
    (∀ (as : List Arg) (m : Mode) (k : GKind), WFa m k as = true → WFa m k (setStrA r as) = true) := by
  apply induct
  · intro t skip m nx nx' h _
    simpa [setStr, WF] using h
  · intro o b c ib skip m nx nx' h _
    rw [setStr]
    rw [WF_group] at h ⊢
    exact ⟨h.1, h.2.1, ib _ _ _ _ _ h.2.2 rfl⟩
  · intro k o b c ib skip m nx nx' h _
    rw [setStr]
    rw [WF_math] at h ⊢
    exact ⟨h.1, h.2.1, ib _ _ _ _ _ h.2.2 rfl⟩
  · intro e n a1 a2 a3 a4 i1 i2 i3 i4 skip m nx nx' h hk
    obtain ⟨h0, w1, w2, w3, w4, hrun⟩ := WF_cmd.1 h
    rw [← runOK_key hk] at hrun
    simp only [setStr]
    split
    · exact WF_cmd.2 ⟨h0, WFa_setLeaf htk a1 _ _ w1, WFa_setLeaf htk a2 _ _ w2, WFa_setLeaf htk a3 _ _ w3,
        WFa_setLeaf htk a4 _ _ w4, runOK_congr (by simp) (by simp) (by simp) (by simp)
          (tight_setLeaf _ a3).trans (tight_setLeaf _ a4).trans hrun⟩
    · exact WF_cmd.2 ⟨h0, i1 _ _ w1, i2 _ _ w2, i3 _ _ w3, i4 _ _ w4, runOK_setStr r hrun⟩
  · intro e n a1 a2 a3 a4 b i1 i2 i3 i4 ib skip m nx nx' h hk
    rw [setStr]
    rw [WF_item] at h ⊢
    obtain ⟨h0, w1, w2, w3, w4, hrun, hb, hstop⟩ := h
    refine ⟨h0, i1 _ _ w1, i2 _ _ w2, i3 _ _ w3, i4 _ _ w4, ?_, ib _ _ _ _ _ hb hk,
      by rw [itemStop_key hk]; exact hstop⟩
    rw [runOK_key (key3_setStrS r b hb hk)]
    exact runOK_setStr r hrun
  · intro e bg nm a2 a3 a4 b e2 en nm2 i2 i3 i4 ib skip m nx nx' h _
    obtain ⟨h0, hnm, w2, w3, w4, hrun, hskip, hb, hrest⟩ := WF_env.1 h
    simp only [setStr]
    split
    · rename_i hsel
      simp only [Bool.and_eq_true, List.isEmpty_iff] at hsel
      obtain ⟨⟨⟨⟨_, rfl⟩, rfl⟩, rfl⟩, _⟩ := hsel
      -- a selected environment has no argument besides its name: the new leaf follows the name
      refine WF_env.2 ⟨h0, hnm, rfl, rfl, rfl, ?_, hskip, WFs_leaf_env htk _ _ _, hrest⟩
      simp only [toksS_cons, toks, toksS_nil, List.append_nil, List.singleton_append]
      exact runOK_text_next r.tk _ htk hrun
    · refine WF_env.2 ⟨h0, hnm, i2 _ _ w2, i3 _ _ w3, i4 _ _ w4, ?_, hskip, ib _ _ _ _ _ hb rfl, hrest⟩
      rw [runOK_key (key3_setStrS r b hb rfl)]
      exact runOK_setStr_env r hrun
  · intro e bg nm a2 a3 a4 vb e5 i2 i3 i4 skip m nx nx' h _
    rw [setStr]
    rw [WF_venv] at h ⊢
    obtain ⟨h0, hnm, w2, w3, w4, hrun, hrest⟩ := h
    exact ⟨h0, hnm, i2 _ _ w2, i3 _ _ w3, i4 _ _ w4, runOK_setStr_env r hrun, hrest⟩
  · intro sp o b c ib m k h
    simp only [setStrArg, WFarg, Bool.and_eq_true] at h ⊢
    exact ⟨h.1, ib _ _ _ _ _ h.2 rfl⟩
  · intros; simp
  · intro e es ie ies ig skip m ctx nx nx' h hk
    obtain ⟨h1, h2, h3, h4⟩ := WFs_cons h
    rw [setStrS_cons]
    refine WFs_cons_intro ?_ ?_ (ies _ _ _ _ _ h3 hk) (peekCond_map h4
      (fun n hn => ⟨n, noArgName_setStr r e ▸ hn, rfl⟩) (nextGroup_setStr r es)
      fun b c hg _ hb => ig b c hg _ _ _ _ _ hb rfl)
    · exact ie _ _ _ _ h1 (key3_setStrS r es h3 hk)
    · rw [startOK_setStr]; exact h2
  · intros; simp
  · intro a as ia ias m k h
    obtain ⟨h1, h2⟩ := WFa_cons h
    simp only [setStrA_cons, WFa, Bool.and_eq_true]
    exact ⟨ia _ _ h1, ias _ _ h2⟩

theorem WF_setStr {r : SetS} (htk : r.tk.cat = .Text) : ∀ (e : Elem) (skip : List Str) (m : Mode)
    (nx nx' : List Tok), WF skip m nx e = true → key3 nx' = key3 nx → WF skip m nx' (setStr r e) = true :=
  (WF_setStr_all htk).1
theorem WFs_setStr {r : SetS} (htk : r.tk.cat = .Text) : ∀ (es : List Elem) (skip : List Str) (m : Mode)
    (ctx : Ctx) (nx nx' : List Tok), WFs skip m ctx nx es = true → key3 nx' = key3 nx →
    WFs skip m ctx nx' (setStrS r es) = true :=
  (WF_setStr_all htk).2.2.1
theorem WFarg_setStr {r : SetS} (htk : r.tk.cat = .Text) : ∀ (a : Arg) (m : Mode) (k : GKind),
    WFarg m k a = true → WFarg m k (setStrArg r a) = true :=
  (WF_setStr_all htk).2.1
theorem WFa_setStr {r : SetS} (htk : r.tk.cat = .Text) : ∀ (as : List Arg) (m : Mode) (k : GKind),
    WFa m k as = true → WFa m k (setStrA r as) = true :=
  (WF_setStr_all htk).2.2.2

theorem WFD_setStr {r : SetS} (htk : r.tk.cat = .Text) (skip : List Str) (d : Doc)
    (h : WFD skip d = true) : WFD skip (setStrD r d) = true :=
  WFs_setStr htk d _ _ _ _ _ h rfl

end TexSoup.Gram
