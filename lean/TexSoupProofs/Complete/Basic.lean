import TexSoupModel.Grammar
import TexSoupProofs.Reader.Leaves
import TexSoupProofs.Reader.ArgsFirst
import TexSoupProofs.Complete.Induct
/-!
# Completeness of the reader: the look-ahead window, what the first token of an element tells, the
induction hypothesis, the look-ahead condition of `read_env`, and what the frame conditions see of
the tokens that follow an element (`key3`, `SameHead`)
-/
namespace TexSoup.Gram
open TexSoup

theorem win_win (ts : List Tok) : win (win ts) = win ts := by
  cases ts with
  | nil => rfl
  | cons t r =>
    by_cases h : (t.cat == TC.MergedSpacer || t.cat == TC.Escape) = true
    · cases r with
      | nil => simp [win, h]
      | cons u r' => simp [win, h]
    · simp [win, h]

theorem win_append (a b : List Tok) : win (a ++ b) = win (a ++ win b) := by
  cases a with
  | nil => simp [win_win]
  | cons t r =>
    by_cases h : (t.cat == TC.MergedSpacer || t.cat == TC.Escape) = true
    · cases r with
      | nil =>
        cases b with
        | nil => rfl
        | cons u b' =>
          by_cases h2 : (u.cat == TC.MergedSpacer || u.cat == TC.Escape) = true
          · simp [win, h, h2]
          · simp [win, h, h2]
      | cons u r' => simp [win, h]
    · simp [win, h]

theorem win_closer {c : Tok} (r : List Tok) (h1 : c.cat ≠ .MergedSpacer) (h2 : c.cat ≠ .Escape) :
    win (c :: r) = [c] := by
  simp [win, h1, h2]

theorem win_seq_closer (a : List Tok) (c : Tok) (rest : List Tok) (h1 : c.cat ≠ .MergedSpacer)
    (h2 : c.cat ≠ .Escape) : win (a ++ c :: rest) = win (a ++ [c]) := by
  rw [win_append, win_closer rest h1 h2]

theorem win_esc {e : Tok} (n : Tok) (r : List Tok) (h : e.cat = .Escape) :
    win (e :: n :: r) = [e, n] := by
  simp [win, h]

theorem hdCat_win (ts : List Tok) : hdCat (win ts) = hdCat ts := by
  cases ts with
  | nil => rfl
  | cons t r =>
    by_cases h : (t.cat == TC.MergedSpacer || t.cat == TC.Escape) = true
    · simp [win, h, hdCat]
    · simp [win, h, hdCat]

theorem hdCat_afterSp_win (ts : List Tok) : hdCat (afterSp (win ts)) = hdCat (afterSp ts) := by
  cases ts with
  | nil => rfl
  | cons t r =>
    by_cases hs : (t.cat == TC.MergedSpacer) = true
    · cases r with
      | nil => simp [win, hs, afterSp, readSpacer]
      | cons u r' => simp [win, hs, afterSp, readSpacer, hdCat]
    · by_cases he : (t.cat == TC.Escape) = true
      · cases r with
        | nil => simp [win, hs, he, afterSp, readSpacer]
        | cons u r' => simp [win, hs, he, afterSp, readSpacer, hdCat]
      · simp [win, hs, he, afterSp, readSpacer, hdCat]

theorem itemStop_win (ts : List Tok) : itemStop (win ts) = itemStop ts := by
  cases ts with
  | nil => rfl
  | cons t r =>
    by_cases hs : (t.cat == TC.MergedSpacer) = true
    · have h1 : t.cat = TC.MergedSpacer := by simpa using hs
      cases r with
      | nil => simp [win, itemStop, h1]
      | cons u r' => simp [win, itemStop, h1]
    · by_cases he : (t.cat == TC.Escape) = true
      · cases r with
        | nil => simp [win, hs, he, itemStop]
        | cons u r' => simp [win, hs, he, itemStop]
      · simp [win, hs, he, itemStop]

theorem runOK_win (sg : Int × Int) (a1 a2 a3 a4 : List Arg) (ts : List Tok) :
    runOK sg a1 a2 a3 a4 (win ts) = runOK sg a1 a2 a3 a4 ts := by
  unfold runOK
  simp only [hdCat_win, hdCat_afterSp_win]

/-- `runOK` does not look into the groups: it sees how many there are in each of the four runs
and whether the two continuation runs start tight. -/
theorem runOK_congr {sg : Int × Int} {a1 a2 a3 a4 b1 b2 b3 b4 : List Arg} {nx : List Tok}
    (h1 : b1.length = a1.length) (h2 : b2.length = a2.length) (h3 : b3.length = a3.length)
    (h4 : b4.length = a4.length) (t3 : tight a3 = true → tight b3 = true)
    (t4 : tight a4 = true → tight b4 = true)
    (h : runOK sg a1 a2 a3 a4 nx = true) : runOK sg b1 b2 b3 b4 nx = true := by
  have shape : ∀ {a b : List Arg}, b.length = a.length →
      (a = [] ∧ b = []) ∨ ∃ x as y bs, a = x :: as ∧ b = y :: bs := by
    intro a b hl
    cases a <;> cases b <;> first | exact .inl ⟨rfl, rfl⟩ | exact .inr ⟨_, _, _, _, rfl, rfl⟩ | cases hl
  have empty : ∀ {a b : List Arg}, b.length = a.length → b.isEmpty = a.isEmpty := by
    intro a b hl
    rcases shape hl with ⟨rfl, rfl⟩ | ⟨_, _, _, _, rfl, rfl⟩ <;> rfl
  unfold runOK at h ⊢
  rw [h1, h2, h3, empty h2, empty h3, empty h4]
  by_cases hneg : (decide (sg.1 < 0) && decide (sg.2 < 0)) = true
  · rw [if_pos hneg] at h ⊢
    simp only [Bool.and_eq_true] at h ⊢
    refine ⟨⟨t3 h.1.1, t4 h.1.2⟩, ?_⟩
    have h := h.2
    rcases shape h2 with ⟨rfl, rfl⟩ | ⟨_, _, _, _, rfl, rfl⟩ <;>
    rcases shape h3 with ⟨rfl, rfl⟩ | ⟨_, _, _, _, rfl, rfl⟩ <;>
    rcases shape h4 with ⟨rfl, rfl⟩ | ⟨_, _, _, _, rfl, rfl⟩ <;> exact h
  · rw [if_neg hneg] at h ⊢
    by_cases hp : (decide (0 ≤ sg.1) && decide (0 ≤ sg.2)) = true
    · rw [if_pos hp] at h ⊢
      simp only [Bool.and_eq_true] at h ⊢
      exact ⟨⟨⟨⟨⟨h.1.1.1.1.1, t3 h.1.1.1.1.2⟩, h.1.1.1.2⟩, h.1.1.2⟩, h.1.2⟩, h.2⟩
    · rw [if_neg hp] at h; cases h

theorem nextIs_false_of_hdCat {c : TC} {ts : List Tok} (h : (hdCat ts != some c) = true) :
    nextIs c ts = false := by
  cases ts with
  | nil => rfl
  | cons t r =>
    simp only [hdCat, bne_iff_ne, ne_eq, Option.some.injEq] at h
    simp only [nextIs, beq_eq_false_iff_ne, ne_eq]
    exact h

theorem nextIs_false_of_afterSp {c : TC} {ts : List Tok} (hc : c ≠ .MergedSpacer)
    (h : (hdCat (afterSp ts) != some c) = true) : nextIs c ts = false := by
  cases hn : nextIs c ts with
  | false => rfl
  | true =>
    obtain ⟨o, r3, hs, ho⟩ := nextIs_readSpacer hc hn
    simp only [afterSp, hs, hdCat, ho, bne_self_eq_false] at h
    cases h

theorem toks_cons (e : Elem) : ∃ r, toks e = firstTok e :: r := by
  cases e <;> simp [toks, firstTok]

theorem firstTok_of_toks {el : Elem} {rest : List Tok} {t : Tok} {r : List Tok}
    (h : toks el ++ rest = t :: r) : firstTok el = t := by
  obtain ⟨r', hr⟩ := toks_cons el
  rw [hr] at h
  exact (List.cons.inj h).1

theorem toks_length_pos (e : Elem) : 1 ≤ (toks e).length := by
  obtain ⟨r, h⟩ := toks_cons e
  rw [h]; simp

@[simp] theorem toksS_nil : toksS [] = [] := by simp [toksS]
@[simp] theorem toksS_cons (e : Elem) (es : List Elem) : toksS (e :: es) = toks e ++ toksS es := by
  simp [toksS]
@[simp] theorem trees_nil : trees [] = [] := by simp [trees]
@[simp] theorem trees_cons (e : Elem) (es : List Elem) : trees (e :: es) = tree e :: trees es := by
  simp [trees]
@[simp] theorem toksA_nil : toksA [] = [] := by simp [toksA]
@[simp] theorem toksA_cons (a : Arg) (as : List Arg) : toksA (a :: as) = toksArg a ++ toksA as := by
  simp [toksA]
@[simp] theorem treesA_nil (k : GKind) : treesA k [] = [] := by simp [treesA]
@[simp] theorem treesA_cons (k : GKind) (a : Arg) (as : List Arg) :
    treesA k (a :: as) = treeArg k a :: treesA k as := by
  simp [treesA]

theorem fuel_drop_step {A B : List Tok} {k g j : Nat} (h : 3 * (A ++ B).length + k ≤ g + j)
    (hj : j ≤ 3 * A.length) : 3 * B.length + k ≤ g := by
  rw [List.length_append] at h; omega

theorem fuel_drop {A B : List Tok} {k g : Nat} (h : 3 * (A ++ B).length + k ≤ g) :
    3 * B.length + k ≤ g :=
  fuel_drop_step (j := 0) h (Nat.zero_le _)

theorem fuel_tail {e : Elem} {T : List Tok} {k g : Nat} (h : 3 * (toks e ++ T).length + k ≤ g + 1) :
    3 * T.length + k ≤ g :=
  fuel_drop_step h (by have := toks_length_pos e; omega)

theorem treesA_length (k : GKind) (as : List Arg) : (treesA k as).length = as.length := by
  induction as with
  | nil => simp
  | cons a as ih => simp [ih]

@[simp] theorem WFs_nil (skip : List Str) (m : Mode) (ctx : Ctx) (nx : List Tok) :
    WFs skip m ctx nx [] = true := by simp [WFs]
@[simp] theorem WFa_nil (m : Mode) (k : GKind) : WFa m k [] = true := by simp [WFa]

-- `WF_group` … `WF_venv`: `WF` of each construct as a flat conjunction, first the conditions on
-- the tokens the construct is written with, then its parts in the order of `WF`.
theorem WF_group {skip : List Str} {m : Mode} {nx : List Tok} {o c : Tok} {b : List Elem} :
    WF skip m nx (.group o b c) = true ↔
      o.cat = .GroupBegin ∧ c.cat = .GroupEnd ∧ WFs [] .nonMath (.grp .brace) [c] b = true := by
  simp only [WF, Bool.and_eq_true, beq_iff_eq, and_assoc]

theorem WF_math {skip : List Str} {m : Mode} {nx : List Tok} {k : MKind} {o c : Tok} {b : List Elem} :
    WF skip m nx (.math k o b c) = true ↔
      mkindOfBegin o.cat = some k ∧ c.cat = k.tokEnd ∧ WFs [] .math (.mth k) [c] b = true := by
  simp only [WF, Bool.and_eq_true, beq_iff_eq, and_assoc]

theorem WF_cmd {skip : List Str} {m : Mode} {nx : List Tok} {e n : Tok} {a1 a2 a3 a4 : List Arg} :
    WF skip m nx (.cmd e n a1 a2 a3 a4) = true ↔
      (e.cat = .Escape ∧ n.text ≠ sItem ∧ (n.text ≠ sBegin ∨ m = .special)) ∧
      WFa (cmdMode n.text m) .bracket a1 = true ∧ WFa (cmdMode n.text m) .brace a2 = true ∧
      WFa (cmdMode n.text m) .bracket a3 = true ∧ WFa (cmdMode n.text m) .brace a4 = true ∧
      runOK (cmdSig (-1) (-1) n.text) a1 a2 a3 a4 nx = true := by
  simp only [WF, Bool.and_eq_true, Bool.or_eq_true, beq_iff_eq, bne_iff_ne, ne_eq, and_assoc]

theorem WF_item {skip : List Str} {m : Mode} {nx : List Tok} {e n : Tok} {a1 a2 a3 a4 : List Arg}
    {b : List Elem} :
    WF skip m nx (.item e n a1 a2 a3 a4 b) = true ↔
      (e.cat = .Escape ∧ n.text = sItem ∧ m ≠ .math) ∧
      WFa (cmdMode n.text m) .bracket a1 = true ∧ WFa (cmdMode n.text m) .brace a2 = true ∧
      WFa (cmdMode n.text m) .bracket a3 = true ∧ WFa (cmdMode n.text m) .brace a4 = true ∧
      runOK (cmdSig (-1) (-1) n.text) a1 a2 a3 a4 (win (toksS b ++ nx)) = true ∧
      WFs [] .nonMath .item nx b = true ∧ itemStop nx = true := by
  simp only [WF, Bool.and_eq_true, beq_iff_eq, bne_iff_ne, ne_eq, and_assoc]

theorem WF_env {skip : List Str} {m : Mode} {nx : List Tok} {e bg e2 en : Tok} {nm nm2 : NameArg}
    {a2 a3 a4 : List Arg} {b : List Elem} :
    WF skip m nx (.env e bg nm a2 a3 a4 b e2 en nm2) = true ↔
      (e.cat = .Escape ∧ bg.text = sBegin ∧ m ≠ .special) ∧ nm.ok = true ∧
      WFa (cmdMode bg.text m) .brace a2 = true ∧ WFa (cmdMode bg.text m) .bracket a3 = true ∧
      WFa (cmdMode bg.text m) .brace a4 = true ∧
      runOK (cmdSig (-1) (-1) bg.text) [] (nm.toArg :: a2) a3 a4 (win (toksS b ++ [e2, en])) = true ∧
      memStr (strip nm.nt.text) skip = false ∧
      WFs skip (envMode (strip nm.nt.text) m) .env [e2, en] b = true ∧
      (e2.cat = .Escape ∧ en.text = sEnd) ∧ nm2.ok = true ∧ nm2.nt.text = strip nm.nt.text := by
  simp only [WF, Bool.and_eq_true, beq_iff_eq, bne_iff_ne, ne_eq, Bool.not_eq_true', and_assoc]

theorem WF_venv {skip : List Str} {m : Mode} {nx : List Tok} {e bg : Tok} {nm : NameArg}
    {a2 a3 a4 : List Arg} {vb e5 : List Tok} :
    WF skip m nx (.venv e bg nm a2 a3 a4 vb e5) = true ↔
      (e.cat = .Escape ∧ bg.text = sBegin ∧ m ≠ .special) ∧ nm.ok = true ∧
      WFa (cmdMode bg.text m) .brace a2 = true ∧ WFa (cmdMode bg.text m) .bracket a3 = true ∧
      WFa (cmdMode bg.text m) .brace a4 = true ∧
      runOK (cmdSig (-1) (-1) bg.text) [] (nm.toArg :: a2) a3 a4 (win (vb ++ e5)) = true ∧
      memStr (strip nm.nt.text) skip = true ∧
      (e5.length = 5 ∧ flat e5 = endMarker (strip nm.nt.text)) ∧
      noEarly (endMarker (strip nm.nt.text)) e5 vb = true := by
  simp only [WF, Bool.and_eq_true, beq_iff_eq, bne_iff_ne, ne_eq, and_assoc]

theorem leafTok_cat {t : Tok} (h : leafTok t = true) :
    mkindOfBegin t.cat = none ∧ t.cat ≠ .Escape ∧ t.cat ≠ .GroupBegin := by
  simpa [leafTok, and_assoc] using h

theorem WF_first {skip : List Str} {m : Mode} {nx : List Tok} {e : Elem} (h : WF skip m nx e = true) :
    (∃ t, e = .leaf t ∧ leafTok t = true) ∨
    (∃ o b c, e = .group o b c ∧ o.cat = .GroupBegin ∧ c.cat = .GroupEnd) ∨
    (∃ k o b c, e = .math k o b c ∧ mkindOfBegin o.cat = some k) ∨
    ((firstTok e).cat = .Escape ∧ ∃ n r, toks e = firstTok e :: n :: r ∧ nameText e = some n.text) := by
  cases e with
  | leaf t => exact .inl ⟨t, rfl, by simpa only [WF] using h⟩
  | group o b c => exact .inr (.inl ⟨o, b, c, rfl, (WF_group.1 h).1, (WF_group.1 h).2.1⟩)
  | math k o b c => exact .inr (.inr (.inl ⟨k, o, b, c, rfl, (WF_math.1 h).1⟩))
  | cmd esc name a1 a2 a3 a4 =>
    exact .inr (.inr (.inr ⟨(WF_cmd.1 h).1.1, name, _, by simp only [toks, firstTok]; rfl, rfl⟩))
  | item esc name a1 a2 a3 a4 b =>
    exact .inr (.inr (.inr ⟨(WF_item.1 h).1.1, name, _, by simp only [toks, firstTok]; rfl, rfl⟩))
  | env esc bgn nm a2 a3 a4 b esc2 en nm2 =>
    exact .inr (.inr (.inr ⟨(WF_env.1 h).1.1, bgn, _, by simp only [toks, firstTok]; rfl, rfl⟩))
  | venv esc bgn nm a2 a3 a4 vb e5 =>
    exact .inr (.inr (.inr ⟨(WF_venv.1 h).1.1, bgn, _, by simp only [toks, firstTok]; rfl, rfl⟩))

theorem toks_esc {skip : List Str} {m : Mode} {nx : List Tok} {e : Elem}
    (hwf : WF skip m nx e = true) (hesc : (firstTok e).cat = .Escape) :
    ∃ n r, toks e = firstTok e :: n :: r ∧ nameText e = some n.text := by
  rcases WF_first hwf with ⟨t, rfl, ht⟩ | ⟨o, b, c, rfl, ho, _⟩ | ⟨k, o, b, c, rfl, hk⟩ | ⟨_, h⟩
  · exact absurd hesc (leafTok_cat ht).2.1
  · have h : o.cat = .Escape := hesc
    rw [ho] at h; cases h
  · have h : o.cat = .Escape := hesc
    rw [h] at hk; cases hk
  · exact h

theorem group_of_first {skip : List Str} {m : Mode} {nx : List Tok} {e : Elem}
    (hwf : WF skip m nx e = true) (h : (firstTok e).cat = .GroupBegin) :
    ∃ o b c, e = .group o b c ∧ c.cat = .GroupEnd := by
  rcases WF_first hwf with ⟨t, rfl, ht⟩ | ⟨o, b, c, rfl, _, hc⟩ | ⟨k, o, b, c, rfl, hk⟩ | ⟨he, _⟩
  · exact absurd h (leafTok_cat ht).2.2
  · exact ⟨o, b, c, rfl, hc⟩
  · have h : o.cat = .GroupBegin := h
    rw [h] at hk; cases hk
  · rw [h] at he; cases he

theorem leaf_of_first_sp {skip : List Str} {m : Mode} {nx : List Tok} {e : Elem}
    (hwf : WF skip m nx e = true) (h : (firstTok e).cat = .MergedSpacer) : ∃ s, e = .leaf s := by
  rcases WF_first hwf with ⟨t, rfl, _⟩ | ⟨o, b, c, rfl, ho, _⟩ | ⟨k, o, b, c, rfl, hk⟩ | ⟨he, _⟩
  · exact ⟨t, rfl⟩
  · have h : o.cat = .MergedSpacer := h
    rw [ho] at h; cases h
  · have h : o.cat = .MergedSpacer := h
    rw [h] at hk; cases hk
  · rw [h] at he; cases he

/-- Completeness for one element: wherever it is well-formed it is read back exactly, the
following tokens are left untouched, and the fuel `3 * length + 1` of the remaining input
suffices. -/
def ElemOK (e : Elem) : Prop :=
  ∀ (skip : List Str) (tol : Bool) (m : Mode) (rest : List Tok) (f : Nat),
    WF skip m (win rest) e = true → 3 * (toks e ++ rest).length + 1 ≤ f →
    readExpr f skip tol m (toks e ++ rest) = .ok (tree e, rest)

/-- A command written without any argument: the look-ahead of `read_env` reaches beyond it. -/
def noArgs : Elem → Bool
  | .cmd _ _ [] [] _ _ => true
  | _ => false

/-- The look-ahead of `read_env` succeeds on an element that starts with a backslash: inside
an environment body every command is first read with the signature `(1, 0)` of `\end`, and
only its name is looked at. For a command without arguments the look-ahead reaches into what
follows; the hypothesis says that a brace group found there can be read as an argument. -/
def PeekOK (e : Elem) : Prop :=
  ∀ (skip : List Str) (tol : Bool) (m : Mode) (rest : List Tok) (g : Nat),
    WF skip m (win rest) e = true → (firstTok e).cat = .Escape →
    3 * (toks e ++ rest).length ≤ g + 3 →
    (noArgs e = true → ∀ name, nameText e = some name → ∀ o r, afterSp rest = o :: r →
      o.cat = .GroupBegin → ∃ x T', readArg g .brace o.pos tol (cmdMode name m) r = .ok (x, T')) →
    ∃ n r args ts', toks e = firstTok e :: n :: r ∧ nameText e = some n.text ∧
      readCommand (g + 3) 1 0 tol m (n :: (r ++ rest)) = .ok ((n, args), ts')

/-- A free brace group can also be read as an argument, in any mode in which its body is
well-formed (needed for the look-ahead above). -/
def GroupArgOK (e : Elem) : Prop :=
  ∀ o b c, e = .group o b c → ∀ (pos : Int) (tol : Bool) (m : Mode) (rest : List Tok) (f : Nat),
    WFs [] m (.grp .brace) [c] b = true → c.cat = .GroupEnd →
    3 * (toksS b ++ c :: rest).length + 3 ≤ f →
    readArg f .brace pos tol m (toksS b ++ c :: rest) = .ok (.group .brace (trees b) pos, rest)

def AllOK (es : List Elem) : Prop := ∀ e ∈ es, ElemOK e ∧ PeekOK e ∧ GroupArgOK e

def ArgsOK (as : List Arg) : Prop := ∀ a ∈ as, AllOK a.body

theorem AllOK.nil : AllOK [] := fun _ h => nomatch h
theorem ArgsOK.nil : ArgsOK [] := fun _ h => nomatch h
theorem AllOK.tail {e : Elem} {es : List Elem} (h : AllOK (e :: es)) : AllOK es :=
  fun x hx => h x (List.mem_cons_of_mem _ hx)
theorem AllOK.head {e : Elem} {es : List Elem} (h : AllOK (e :: es)) : ElemOK e :=
  (h e List.mem_cons_self).1
theorem AllOK.peek {e : Elem} {es : List Elem} (h : AllOK (e :: es)) : PeekOK e :=
  (h e List.mem_cons_self).2.1
theorem AllOK.grp {e : Elem} {es : List Elem} (h : AllOK (e :: es)) : GroupArgOK e :=
  (h e List.mem_cons_self).2.2
theorem ArgsOK.tail {a : Arg} {as : List Arg} (h : ArgsOK (a :: as)) : ArgsOK as :=
  fun x hx => h x (List.mem_cons_of_mem _ hx)
theorem ArgsOK.head {a : Arg} {as : List Arg} (h : ArgsOK (a :: as)) : AllOK a.body :=
  h a List.mem_cons_self

/-- the condition the look-ahead of `read_env` puts on the neighbour of an argument-less command -/
def peekCond (m : Mode) (ctx : Ctx) (e : Elem) (es : List Elem) : Bool :=
  match ctx, e, es with
  | .env, .cmd _ name [] [] _ _, .group _ b c :: _ =>
      WFs [] (cmdMode name.text m) (.grp .brace) [c] b
  | .env, .cmd _ name [] [] _ _, .leaf s :: .group _ b c :: _ =>
      s.cat != .MergedSpacer || WFs [] (cmdMode name.text m) (.grp .brace) [c] b
  | _, _, _ => true

theorem WFs_cons {skip : List Str} {m : Mode} {ctx : Ctx} {nx : List Tok} {e : Elem} {es : List Elem}
    (h : WFs skip m ctx nx (e :: es) = true) :
    WF skip m (win (toksS es ++ nx)) e = true ∧ startOK ctx e = true ∧
      WFs skip m ctx nx es = true ∧ peekCond m ctx e es = true := by
  rw [WFs.eq_def] at h
  simp only [Bool.and_eq_true] at h
  exact ⟨h.1.1.1, h.1.1.2, h.1.2, h.2⟩

theorem WFs_cons_intro {skip : List Str} {m : Mode} {ctx : Ctx} {nx : List Tok} {e : Elem}
    {es : List Elem} (h1 : WF skip m (win (toksS es ++ nx)) e = true) (h2 : startOK ctx e = true)
    (h3 : WFs skip m ctx nx es = true) (h4 : peekCond m ctx e es = true) :
    WFs skip m ctx nx (e :: es) = true := by
  rw [WFs.eq_def]
  simp only [Bool.and_eq_true]
  exact ⟨⟨⟨h1, h2⟩, h3⟩, h4⟩

theorem WFs_mem {skip : List Str} {m : Mode} {ctx : Ctx} {nx : List Tok} {e : Elem} :
    ∀ {es : List Elem}, WFs skip m ctx nx es = true → e ∈ es →
      (∃ nx', WF skip m nx' e = true) ∧ startOK ctx e = true
  | [], _, he => by cases he
  | _ :: _, h, he => by
    obtain ⟨hwf, hst, hws, _⟩ := WFs_cons h
    rcases List.mem_cons.mp he with rfl | he
    · exact ⟨⟨_, hwf⟩, hst⟩
    · exact WFs_mem hws he

def noArgName : Elem → Option Str
  | .cmd _ n [] [] _ _ => some n.text
  | _ => none

theorem noArgName_some {e : Elem} {n : Str} (h : noArgName e = some n) :
    ∃ esc name a3 a4, e = .cmd esc name [] [] a3 a4 ∧ name.text = n := by
  cases e with
  | cmd esc name a1 a2 a3 a4 =>
    cases a1 with
    | nil =>
      cases a2 with
      | nil => exact ⟨esc, name, a3, a4, rfl, by simpa [noArgName] using h⟩
      | cons _ _ => simp [noArgName] at h
    | cons _ _ => simp [noArgName] at h
  | _ => simp [noArgName] at h

theorem peekCond_iff (m : Mode) (ctx : Ctx) (e : Elem) (es : List Elem) :
    peekCond m ctx e es = true ↔
      (ctx = .env → ∀ n, noArgName e = some n → ∀ b c, nextGroup es = some (b, c) →
        WFs [] (cmdMode n m) (.grp .brace) [c] b = true) := by
  unfold peekCond
  split
  · rename_i esc name a3 a4 o b c tl
    simp [noArgName, nextGroup]
  · rename_i esc name a3 a4 s o b c tl
    by_cases hs : (s.cat == TC.MergedSpacer) = true
    · have : s.cat = TC.MergedSpacer := by simpa using hs
      simp [noArgName, nextGroup, this]
    · have : ¬ s.cat = TC.MergedSpacer := by simpa using hs
      simp [noArgName, nextGroup, this]
  · rename_i h1 h2
    constructor
    · intro _ hctx n hn b c hg
      exfalso
      obtain ⟨esc, name, a3, a4, rfl, _⟩ := noArgName_some hn
      rcases nextGroup_some hg with ⟨o, tl, rfl⟩ | ⟨s, o, tl, rfl, _⟩
      · exact h1 esc name a3 a4 o b c tl hctx rfl rfl
      · exact h2 esc name a3 a4 s o b c tl hctx rfl rfl
    · intro _; rfl

theorem peekCond_map {m : Mode} {ctx : Ctx} {e e' : Elem} {es es' : List Elem}
    {F : List Elem → List Elem} (h : peekCond m ctx e es = true)
    (hn : ∀ n', noArgName e' = some n' → ∃ n, noArgName e = some n ∧ cmdMode n' m = cmdMode n m)
    (hg : nextGroup es' = (nextGroup es).map fun bc => (F bc.1, bc.2))
    (hF : ∀ b c, nextGroup es = some (b, c) → ∀ m', WFs [] m' (.grp .brace) [c] b = true →
      WFs [] m' (.grp .brace) [c] (F b) = true) :
    peekCond m ctx e' es' = true := by
  rw [peekCond_iff] at h ⊢
  intro hctx n' hn' b' c hg'
  obtain ⟨n, hn, hm⟩ := hn n' hn'
  rw [hg] at hg'
  cases hng : nextGroup es with
  | none => rw [hng] at hg'; cases hg'
  | some bc =>
    rw [hng] at hg'
    simp only [Option.map_some, Option.some.injEq, Prod.mk.injEq] at hg'
    obtain ⟨rfl, rfl⟩ := hg'
    rw [hm]
    exact hF bc.1 bc.2 hng _ (h hctx n hn bc.1 bc.2 hng)

theorem afterSp_cons_ne {t : Tok} (r : List Tok) (h : t.cat ≠ .MergedSpacer) : afterSp (t :: r) = t :: r := by
  simp only [afterSp, readSpacer]
  rw [if_neg (by simpa using h)]

theorem afterSp_cons_sp {t : Tok} (r : List Tok) (h : t.cat = .MergedSpacer) : afterSp (t :: r) = r := by
  simp only [afterSp, readSpacer, h, beq_self_eq_true, if_true]

/-- The three things a frame condition asks about the tokens that follow. -/
def key3 (nx : List Tok) : Option TC × Option TC × Bool := (hdCat nx, hdCat (afterSp nx), itemStop nx)

theorem key3_win (X : List Tok) : key3 (win X) = key3 X := by
  simp [key3, hdCat_win, hdCat_afterSp_win, itemStop_win]

theorem runOK_key {sg : Int × Int} {a1 a2 a3 a4 : List Arg} {nx nx' : List Tok}
    (h : key3 nx' = key3 nx) : runOK sg a1 a2 a3 a4 nx' = runOK sg a1 a2 a3 a4 nx := by
  simp only [key3, Prod.mk.injEq] at h
  unfold runOK
  rw [h.1, h.2.1]

theorem itemStop_key {nx nx' : List Tok} (h : key3 nx' = key3 nx) : itemStop nx' = itemStop nx := by
  simp only [key3, Prod.mk.injEq] at h
  exact h.2.2

theorem key3_cons {t t' : Tok} {X X' : List Tok} (hc : t'.cat = t.cat) (he : t.cat ≠ .Escape)
    (hs : t.cat = .MergedSpacer → hdCat X' = hdCat X) : key3 (t' :: X') = key3 (t :: X) := by
  have hae : (t.cat == TC.Escape) = false := by simpa using he
  have h1 : hdCat (t' :: X') = hdCat (t :: X) := by simp only [hdCat, hc]
  have h2 : hdCat (afterSp (t' :: X')) = hdCat (afterSp (t :: X)) := by
    by_cases h : t.cat = .MergedSpacer
    · rw [afterSp_cons_sp _ h, afterSp_cons_sp _ (hc.trans h)]; exact hs h
    · rw [afterSp_cons_ne _ h, afterSp_cons_ne _ (hc ▸ h)]; exact h1
  simp only [key3, h1, h2, itemStop, hc, hae, Bool.false_and]

/-- the only comparison a look-ahead makes with the text of a name token -/
def stopName (b : Tok) : Bool := b.text == sEnd || b.text == sItem

theorem key3_two (a b b' : Tok) (r r' : List Tok) (hc : b'.cat = b.cat) (hs : stopName b' = stopName b) :
    key3 (a :: b' :: r') = key3 (a :: b :: r) := by
  simp only [stopName] at hs
  simp only [key3, hdCat, afterSp, readSpacer, itemStop, hs]
  by_cases h : (a.cat == TC.MergedSpacer) = true <;> simp [h, hc]

/-- `e'` begins like `e`, as far as a look-ahead into it and the tokens behind it can tell. -/
def SameHead (e e' : Elem) : Prop :=
  ∀ X X', key3 X' = key3 X → key3 (toks e' ++ X') = key3 (toks e ++ X)

theorem SameHead.of_wf {skip : List Str} {m : Mode} {nx : List Tok} {e e' : Elem}
    (hwf : WF skip m nx e = true) (hf : (firstTok e').cat = (firstTok e).cat)
    (hl : ∀ t, e = .leaf t → ∃ t', e' = .leaf t' ∧ t'.cat = t.cat)
    (hn : ∀ s, nameText e = some s → ∃ n n' r r', toks e = firstTok e :: n :: r ∧
      toks e' = firstTok e :: n' :: r' ∧ n'.cat = n.cat ∧ stopName n' = stopName n) : SameHead e e' := by
  intro X X' h
  obtain ⟨r', hr'⟩ := toks_cons e'
  rcases WF_first hwf with ⟨t, rfl, ht⟩ | ⟨o, b, c, rfl, ho, _⟩ | ⟨k, o, b, c, rfl, hk⟩ | ⟨_, _, _, _, hs⟩
  · obtain ⟨t', rfl, hc⟩ := hl t rfl
    exact key3_cons hc (leafTok_cat ht).2.1 fun _ => congrArg Prod.fst h
  · rw [hr']
    exact key3_cons hf (by rw [ho]; decide) fun h => by rw [ho] at h; cases h
  · rw [hr']
    exact key3_cons hf (fun h => by rw [h] at hk; cases hk) fun h => by rw [h] at hk; cases hk
  · obtain ⟨n, n', r, r', hr, h', hc, hs⟩ := hn _ hs
    rw [hr, h']
    exact key3_two _ n n' _ _ hc hs

theorem SameHead.seq {F : Elem → Elem} {FS : List Elem → List Elem} (hnil : FS [] = [])
    (hcons : ∀ e es, FS (e :: es) = F e :: FS es)
    (hF : ∀ {skip m nx e}, WF skip m nx e = true → SameHead e (F e)) :
    ∀ (es : List Elem) {skip : List Str} {m : Mode} {ctx : Ctx} {nx0 : List Tok},
    WFs skip m ctx nx0 es = true → ∀ {X X' : List Tok}, key3 X' = key3 X →
    key3 (win (toksS (FS es) ++ X')) = key3 (win (toksS es ++ X)) := by
  intro es
  induction es with
  | nil => intro _ _ _ _ _ X X' h; simpa [hnil, key3_win] using h
  | cons e es ih =>
    intro skip m ctx nx0 hwf X X' h
    obtain ⟨hwe, -, hws, -⟩ := WFs_cons hwf
    have hrec := ih hws h
    rw [key3_win, key3_win] at hrec ⊢
    rw [hcons, toksS_cons, toksS_cons, List.append_assoc, List.append_assoc]
    exact hF hwe _ _ hrec

theorem startOK_congr {ctx : Ctx} {e e' : Elem} (hf : (firstTok e').cat = (firstTok e).cat)
    (hn : ∀ s, s = sEnd ∨ s = sItem → (nameText e' == some s) = (nameText e == some s)) :
    startOK ctx e' = startOK ctx e := by
  cases ctx <;> simp only [startOK, hf, bne, hn sEnd (.inl rfl), hn sItem (.inr rfl)]

end TexSoup.Gram
