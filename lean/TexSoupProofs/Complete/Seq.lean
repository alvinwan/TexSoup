import TexSoupProofs.Complete.Basic
/-!
# Completeness of the reader: the loops of groups, arguments, math regions and `read_tex`;
leaves, free groups, math regions
-/
namespace TexSoup.Gram
open TexSoup

theorem succ_of_le {n f : Nat} (h : n + 1 ≤ f) : ∃ g, f = g + 1 := ⟨f - 1, by omega⟩

theorem tokEnd_ne_sp (k : GKind) : k.tokEnd ≠ .MergedSpacer := by cases k <;> decide
theorem tokEnd_ne_esc (k : GKind) : k.tokEnd ≠ .Escape := by cases k <;> decide
theorem mtokEnd_ne_sp (k : MKind) : k.tokEnd ≠ .MergedSpacer := by cases k <;> decide
theorem mtokEnd_ne_esc (k : MKind) : k.tokEnd ≠ .Escape := by cases k <;> decide

/-- The loops that read a sequence of elements (`read_arg`, `read_math_env`, `read_env`,
`read_item`, `read_tex`) have one shape: `L` reads elements until what follows, `Z`, makes it
stop, and returns `mk` of what it has read. For such a loop it is enough to show that it stops at
`Z` (`hnil`) and that it goes on at an element that `read_expr` reads (`hcons`); the induction
over the sequence, the look-ahead window and the fuel are dealt with here. -/
theorem loop_complete {β : Type} {L : Nat → List Tok → Except Err β} {mk : List Expr → β}
    {skip : List Str} {tol : Bool} {m : Mode} {ctx : Ctx} {nx Z : List Tok} (hZ : win Z = win nx)
    (hnil : ∀ g, 3 * Z.length + 2 ≤ g + 1 → L (g + 1) Z = .ok (mk []))
    (hcons : ∀ g (e : Elem) (es : List Elem) (r : List Tok), AllOK (e :: es) →
      WFs skip m ctx nx (e :: es) = true → WF skip m (win (toksS es ++ Z)) e = true →
      3 * (toks e ++ (toksS es ++ Z)).length + 2 ≤ g + 1 → toks e = firstTok e :: r →
      readExpr g skip tol m (firstTok e :: (r ++ (toksS es ++ Z))) = .ok (tree e, toksS es ++ Z) →
      L g (toksS es ++ Z) = .ok (mk (trees es)) →
      L (g + 1) (firstTok e :: (r ++ (toksS es ++ Z))) = .ok (mk (tree e :: trees es))) :
    ∀ es : List Elem, AllOK es → WFs skip m ctx nx es = true →
    ∀ f, 3 * (toksS es ++ Z).length + 2 ≤ f → L f (toksS es ++ Z) = .ok (mk (trees es)) := by
  intro es
  induction es with
  | nil =>
    intro _ _ f hf
    obtain ⟨g, rfl⟩ := succ_of_le hf
    exact hnil g hf
  | cons e es ih =>
    intro hok hwf f hf
    obtain ⟨g, rfl⟩ := succ_of_le hf
    obtain ⟨hwe, -, hws, -⟩ := WFs_cons hwf
    obtain ⟨r, hr⟩ := toks_cons e
    rw [win_append, ← hZ, ← win_append] at hwe
    simp only [toksS_cons, trees_cons, List.append_assoc] at hf ⊢
    have he := hok.head skip tol m _ g hwe (by omega)
    rw [hr, List.cons_append] at he ⊢
    exact hcons g e es r hok hwf hwe hf hr he (ih hok.tail hws g (fuel_tail hf))

theorem readArgBody_complete (k : GKind) (tol : Bool) (m : Mode) (c : Tok) (hc : c.cat = k.tokEnd)
    (es : List Elem) (hok : AllOK es) (hwf : WFs [] m (.grp k) [c] es = true) (rest : List Tok)
    (f : Nat) (hf : 3 * (toksS es ++ c :: rest).length + 2 ≤ f) :
    readArgBody f k tol m (toksS es ++ c :: rest) = .ok (trees es, rest) :=
  loop_complete (L := fun f ts => readArgBody f k tol m ts) (mk := fun l => (l, rest))
    (win_seq_closer [] c rest (hc ▸ tokEnd_ne_sp k) (hc ▸ tokEnd_ne_esc k))
    (fun _ _ => readArgBody.close (by rw [hc, beq_self_eq_true]))
    (fun _ _ _ _ _ hwf _ _ _ he hrec =>
      readArgBody.step (by simpa [startOK] using (WFs_cons hwf).2.1) he hrec)
    es hok hwf f hf

theorem readArg_complete (k : GKind) (pos : Int) (tol : Bool) (m : Mode) (c : Tok) (hc : c.cat = k.tokEnd)
    (es : List Elem) (hok : AllOK es) (hwf : WFs [] m (.grp k) [c] es = true)
    (rest : List Tok) (f : Nat) (hf : 3 * (toksS es ++ c :: rest).length + 3 ≤ f) :
    readArg f k pos tol m (toksS es ++ c :: rest) = .ok (.group k (trees es) pos, rest) := by
  obtain ⟨g, rfl⟩ := succ_of_le hf
  exact readArg.intro (readArgBody_complete k tol m c hc es hok hwf rest g (by omega))

theorem readMathBody_complete (k : MKind) (tol : Bool) (c : Tok) (hc : c.cat = k.tokEnd)
    (es : List Elem) (hok : AllOK es) (hwf : WFs [] .math (.mth k) [c] es = true) (rest : List Tok)
    (f : Nat) (hf : 3 * (toksS es ++ c :: rest).length + 2 ≤ f) :
    readMathBody f k tol (toksS es ++ c :: rest) = .ok (trees es, c :: rest) :=
  loop_complete (L := fun f ts => readMathBody f k tol ts) (mk := fun l => (l, c :: rest))
    (win_seq_closer [] c rest (hc ▸ mtokEnd_ne_sp k) (hc ▸ mtokEnd_ne_esc k))
    (fun _ _ => readMathBody.stop (by rw [hc, beq_self_eq_true]))
    (fun _ _ _ _ _ hwf _ _ _ he hrec =>
      readMathBody.step (by simpa [startOK] using (WFs_cons hwf).2.1) he hrec)
    es hok hwf f hf

theorem readTex_complete (skip : List Str) (tol : Bool) (es : List Elem) (hok : AllOK es)
    (hwf : WFs skip .nonMath .top [] es = true) (f : Nat) (hf : 3 * (toksS es).length + 2 ≤ f) :
    readTex f skip tol (toksS es) = .ok (trees es) := by
  rw [← List.append_nil (toksS es)] at hf ⊢
  exact loop_complete (L := fun f ts => readTex f skip tol ts) (mk := id) (tol := tol) rfl
    (fun _ _ => by simp only [readTex, id])
    (fun _ _ _ _ _ _ _ _ _ he hrec => by simp only [readTex, he, hrec, id])
    es hok hwf f hf

theorem leaf_ok (t : Tok) : ElemOK (.leaf t) := by
  intro skip tol m rest f hwf hf
  obtain ⟨g, rfl⟩ := succ_of_le hf
  simp only [WF] at hwf
  simp only [toks, tree, List.cons_append, List.nil_append]
  exact readExpr_leaf g skip tol m t rest hwf

theorem group_ok (o : Tok) (b : List Elem) (c : Tok) (hb : AllOK b) : ElemOK (.group o b c) := by
  intro skip tol m rest f hwf hf
  obtain ⟨g, rfl⟩ := succ_of_le hf
  obtain ⟨ho, hc, hwb⟩ := WF_group.1 hwf
  simp only [toks, tree, List.cons_append, List.append_assoc, List.nil_append, List.length_cons] at hf ⊢
  exact readExpr.group (by rw [ho]; rfl) (by rw [ho]; decide) (by rw [ho]; rfl)
    (readArg_complete .brace o.pos tol .nonMath c hc b hb hwb rest g (by omega))

theorem leaf_groupArg (t : Tok) : GroupArgOK (.leaf t) := by
  intro o b c he; cases he

theorem math_groupArg (k : MKind) (o : Tok) (b : List Elem) (c : Tok) : GroupArgOK (.math k o b c) := by
  intro o' b' c' he; cases he

theorem group_groupArg (o : Tok) (b : List Elem) (c : Tok) (hb : AllOK b) : GroupArgOK (.group o b c) := by
  intro o' b' c' he pos tol m rest f hwf hc hf
  cases he
  exact readArg_complete .brace pos tol m c hc b hb hwf rest f hf

theorem math_ok (k : MKind) (o : Tok) (b : List Elem) (c : Tok) (hb : AllOK b) :
    ElemOK (.math k o b c) := by
  intro skip tol m rest f hwf hf
  obtain ⟨ho, hc, hwb⟩ := WF_math.1 hwf
  simp only [toks, tree, List.cons_append, List.append_assoc, List.nil_append, List.length_cons] at hf ⊢
  obtain ⟨g, rfl⟩ : ∃ g, f = g + 2 := ⟨f - 2, by omega⟩
  exact readExpr.math ho (readMathEnv.intro
    (readMathBody_complete k tol c hc b hb hwb rest g (by omega)) (by rw [hc, beq_self_eq_true]))

end TexSoup.Gram
