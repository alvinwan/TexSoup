import TexSoupProofs.Complete.Squeeze
/-!
# What is well-formed in math mode is well-formed in non-math mode

Math mode only forbids `\item`. `MLe m1 m2`: the modes are equal, or `m1` is math mode and
`m2` non-math mode.
-/
namespace TexSoup.Gram
open TexSoup

theorem MLe.cmdMode {m1 m2 : Mode} (h : MLe m1 m2) (n : Str) : MLe (cmdMode n m1) (cmdMode n m2) :=
  h.ite _

theorem MLe.envMode {m1 m2 : Mode} (h : MLe m1 m2) (n : Str) : MLe (envMode n m1) (envMode n m2) :=
  h.ite _

theorem MLe.special {m1 m2 : Mode} (h : MLe m1 m2) : (m1 == Mode.special) = (m2 == Mode.special) := by
  rcases h with rfl | ⟨rfl, rfl⟩
  · rfl
  · decide

theorem MLe.special_imp {m1 m2 : Mode} (h : MLe m1 m2) (h1 : m1 = .special) : m2 = .special := by
  rcases h with rfl | ⟨rfl, rfl⟩
  · exact h1
  · cases h1

theorem MLe.ne_special {m1 m2 : Mode} (h : MLe m1 m2) (h1 : m1 ≠ .special) : m2 ≠ .special := by
  rcases h with rfl | ⟨rfl, rfl⟩
  · exact h1
  · decide

theorem MLe.ne_math {m1 m2 : Mode} (h : MLe m1 m2) (h1 : m1 ≠ .math) : m1 = m2 := by
  rcases h with rfl | ⟨rfl, rfl⟩
  · rfl
  · exact absurd rfl h1

theorem WF_mle_all :
    (∀ (e : Elem) (skip : List Str) (m1 m2 : Mode) (nx : List Tok), MLe m1 m2 →
      WF skip m1 nx e = true → WF skip m2 nx e = true) ∧
    (∀ (a : Arg) (m1 m2 : Mode) (k : GKind), MLe m1 m2 → WFarg m1 k a = true → WFarg m2 k a = true) ∧
    (∀ (es : List Elem) (skip : List Str) (m1 m2 : Mode) (ctx : Ctx) (nx : List Tok),
      MLe m1 m2 → WFs skip m1 ctx nx es = true → WFs skip m2 ctx nx es = true) ∧
    (∀ (as : List Arg) (m1 m2 : Mode) (k : GKind), MLe m1 m2 → WFa m1 k as = true → WFa m2 k as = true) := by
  apply induct
  · intro t skip m1 m2 nx hle h; simpa [WF] using h
  · intro o b c _ skip m1 m2 nx hle h
    rw [WF_group] at h ⊢
    exact h
  · intro k o b c _ skip m1 m2 nx hle h
    rw [WF_math] at h ⊢
    exact h
  · intro e n a1 a2 a3 a4 i1 i2 i3 i4 skip m1 m2 nx hle h
    rw [WF_cmd] at h ⊢
    obtain ⟨h0, w1, w2, w3, w4, hrun⟩ := h
    have hc := hle.cmdMode n.text
    exact ⟨⟨h0.1, h0.2.1, h0.2.2.imp_right hle.special_imp⟩, i1 _ _ _ hc w1, i2 _ _ _ hc w2,
      i3 _ _ _ hc w3, i4 _ _ _ hc w4, hrun⟩
  · intro e n a1 a2 a3 a4 b i1 i2 i3 i4 ib skip m1 m2 nx hle h
    rw [WF_item] at h ⊢
    -- the one condition that mentions math mode: an `\item` is not in it, so the modes are equal
    obtain rfl := hle.ne_math h.1.2.2
    exact h
  · intro e bg nm a2 a3 a4 b e2 en nm2 i2 i3 i4 ib skip m1 m2 nx hle h
    rw [WF_env] at h ⊢
    obtain ⟨h0, hnm, w2, w3, w4, hrun, hskip, hb, hrest⟩ := h
    have hc := hle.cmdMode bg.text
    exact ⟨⟨h0.1, h0.2.1, hle.ne_special h0.2.2⟩, hnm, i2 _ _ _ hc w2, i3 _ _ _ hc w3, i4 _ _ _ hc w4,
      hrun, hskip, ib _ _ _ _ _ (hle.envMode _) hb, hrest⟩
  · intro e bg nm a2 a3 a4 vb e5 i2 i3 i4 skip m1 m2 nx hle h
    rw [WF_venv] at h ⊢
    obtain ⟨h0, hnm, w2, w3, w4, hrest⟩ := h
    have hc := hle.cmdMode bg.text
    exact ⟨⟨h0.1, h0.2.1, hle.ne_special h0.2.2⟩, hnm, i2 _ _ _ hc w2, i3 _ _ _ hc w3, i4 _ _ _ hc w4,
      hrest⟩
  · intro sp o b c ib m1 m2 k hle h
    simp only [WFarg, Bool.and_eq_true] at h ⊢
    exact ⟨h.1, ib _ _ _ _ _ hle h.2⟩
  · intros; simp
  · intro e es ie ies ig skip m1 m2 ctx nx hle h
    obtain ⟨h1, h2, h3, h4⟩ := WFs_cons h
    refine WFs_cons_intro (ie _ _ _ _ hle h1) h2 (ies _ _ _ _ _ hle h3) ?_
    rw [peekCond_iff] at h4 ⊢
    intro hctx n hn b c hg
    exact ig b c hg _ _ _ _ _ (hle.cmdMode n) (h4 hctx n hn b c hg)
  · intros; simp
  · intro a as ia ias m1 m2 k hle h
    obtain ⟨h1, h2⟩ := WFa_cons h
    simp only [WFa, Bool.and_eq_true]
    exact ⟨ia _ _ _ hle h1, ias _ _ _ hle h2⟩

theorem WF_mle : ∀ (e : Elem) (skip : List Str) (m1 m2 : Mode) (nx : List Tok), MLe m1 m2 →
    WF skip m1 nx e = true → WF skip m2 nx e = true := WF_mle_all.1
theorem WFs_mle : ∀ (es : List Elem) (skip : List Str) (m1 m2 : Mode) (ctx : Ctx) (nx : List Tok),
    MLe m1 m2 → WFs skip m1 ctx nx es = true → WFs skip m2 ctx nx es = true := WF_mle_all.2.2.1
theorem WFarg_mle : ∀ (a : Arg) (m1 m2 : Mode) (k : GKind), MLe m1 m2 →
    WFarg m1 k a = true → WFarg m2 k a = true := WF_mle_all.2.1
theorem WFa_mle : ∀ (as : List Arg) (m1 m2 : Mode) (k : GKind), MLe m1 m2 →
    WFa m1 k as = true → WFa m2 k as = true := WF_mle_all.2.2.2

end TexSoup.Gram
