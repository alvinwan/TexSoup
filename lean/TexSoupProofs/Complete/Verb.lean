import TexSoupProofs.Complete.Item
/-!
# Completeness of the reader: verbatim-like environments (`read_skip_env`)
-/
namespace TexSoup.Gram
open TexSoup

theorem isPrefix_append_long : ∀ (s x z : Str), s.length ≤ x.length →
    isPrefix s (x ++ z) = isPrefix s x := by
  intro s
  induction s with
  | nil => intro x z _; simp [isPrefix]
  | cons a s ih =>
    intro x z h
    cases x with
    | nil => simp at h
    | cons b x =>
      simp only [List.cons_append, isPrefix]
      rw [ih x z (by simpa using h)]

theorem bufStartsWith_ext (s : Str) (a b : List Tok) (h : s.length ≤ (flat a).length) :
    bufStartsWith s (a ++ b) = bufStartsWith s a := by
  unfold bufStartsWith
  by_cases hl : s.length ≤ a.length
  · rw [List.take_append_of_le_length hl]
  · have hl' : a.length ≤ s.length := by omega
    rw [List.take_append, List.take_of_length_le hl', flat_append]
    exact isPrefix_append_long s (flat a) _ h

theorem noEarly_suffix (mk : Str) (e5 : List Tok) : ∀ (pre suf : List Tok),
    noEarly mk e5 (pre ++ suf) = true → suf ≠ [] → bufStartsWith mk (suf ++ e5) = false := by
  intro pre
  induction pre with
  | nil =>
    intro suf h hs
    cases suf with
    | nil => exact absurd rfl hs
    | cons t r =>
      simp only [List.nil_append, noEarly, Bool.and_eq_true, Bool.not_eq_true'] at h
      exact h.1
  | cons p pre ih =>
    intro suf h hs
    simp only [List.cons_append, noEarly, Bool.and_eq_true] at h
    exact ih suf h.2 hs

theorem endMarker_length (name : Str) : 5 < (endMarker name).length := by
  simp [endMarker, strEnd]

/-- The look-ahead in front of a raw body does not reach beyond the end marker. -/
theorem win_raw_five (vb e5 r : List Tok) (h5 : e5.length = 5) : win (vb ++ (e5 ++ r)) = win (vb ++ e5) := by
  rw [win_append vb (e5 ++ r), win_append vb e5]
  congr 2
  cases e5 with
  | nil => simp at h5
  | cons t r1 =>
    cases r1 with
    | nil => simp at h5
    | cons u r2 => simp [win]

/-- … and the position of the raw body is that of its first token, or of the end marker. -/
theorem headPos_raw_five (vb e5 r : List Tok) (h5 : e5.length = 5) :
    headPos (vb ++ (e5 ++ r)) = headPos (vb ++ e5) := by
  cases vb with
  | cons t _ => rfl
  | nil =>
    cases e5 with
    | nil => cases h5
    | cons t _ => rfl

theorem venv_ok (esc bgn : Tok) (nm : NameArg) (a2 a3 a4 : List Arg) (vb e5 : List Tok)
    (k2 : ArgsOK a2) (k3 : ArgsOK a3) (k4 : ArgsOK a4) :
    ElemOK (.venv esc bgn nm a2 a3 a4 vb e5) := by
  intro skip tol m rest f hwf hf
  obtain ⟨g, rfl⟩ := succ_of_le hf
  obtain ⟨⟨hesc, hbg, hms⟩, hnm, w2, w3, w4, hrun, hskip, ⟨h5, hfl⟩, hno⟩ := WF_venv.1 hwf
  rw [← win_raw_five vb e5 rest h5, runOK_win] at hrun
  simp only [toks, tree, List.cons_append, List.append_assoc, List.length_cons] at hf ⊢
  have hmk : (endMarker (strip nm.nt.text)).length ≤ (flat e5).length := by rw [hfl]; exact Nat.le_refl _
  have hend : bufStartsWith (endMarker (strip nm.nt.text)) (e5 ++ rest) = true := by
    rw [bufStartsWith_ext _ _ _ hmk]
    unfold bufStartsWith
    rw [List.take_of_length_le (by have := endMarker_length (strip nm.nt.text); omega), hfl]
    exact isPrefix_self _
  -- the end marker starts at `e5` (`hend`) and, by `noEarly`, nowhere in front of it
  have hraw := skip_env_opaque (strip nm.nt.text)
    (treesA .brace a2 ++ (treesA .bracket a3 ++ treesA .brace a4)) esc.pos vb e5 rest
    (by
      intro pre suf hb hs
      rw [← List.append_assoc, bufStartsWith_ext _ _ _ (by
        rw [flat_append, List.length_append]; omega)]
      exact noEarly_suffix _ e5 pre suf (by rw [← hb]; exact hno) hs)
    h5 hend
  rw [← headPos_raw_five vb e5 rest h5]
  exact readExpr.skipEnv (by rw [hesc]; rfl) (by rw [hesc]; rfl)
    (readCommand_begin g tol m bgn nm a2 a3 a4 k2 k3 k4 hnm w2 w3 w4 _ hrun
      (by simp only [List.length_cons]; omega))
    (by rw [hbg]; decide) (by simpa [hbg] using hms) rfl (by rw [nameArg_string]; exact hskip)
    (by rw [nameArg_string]; exact hraw)

theorem venv_peek (esc bgn : Tok) (nm : NameArg) (a2 a3 a4 : List Arg) (vb e5 : List Tok)
    (k2 : ArgsOK a2) : PeekOK (.venv esc bgn nm a2 a3 a4 vb e5) := by
  intro skip tol m rest g hwf _ hf _
  obtain ⟨_, hnm, w2, _⟩ := WF_venv.1 hwf
  simp only [toks, List.cons_append, List.append_assoc, List.length_cons] at hf
  obtain ⟨args, T', hr⟩ := begin_peek tol m bgn nm a2 a3 a4 k2 hnm w2 (vb ++ (e5 ++ rest)) g (by omega)
  exact ⟨bgn, _, args, T', by simp only [toks, firstTok]; rfl, rfl, by simpa using hr⟩

end TexSoup.Gram
