import TexSoupModel.Grammar
/-!
# Induction over documents

`Elem`, `Arg` and their lists are one nested inductive type. `Gram.induct` is its induction
principle with one predicate for each of the four, stated once so that a family of four mutually
dependent facts is a single application instead of a mutual recursion that Lean has to compile.
In the step for `e :: es` it also hands out the fact for the body of the free group that `es`
starts with (`nextGroup`): that is where the look-ahead condition of `WFs` looks.
-/
namespace TexSoup.Gram
open TexSoup

def nextGroup : List Elem → Option (List Elem × Tok)
  | .group _ b c :: _ => some (b, c)
  | .leaf s :: .group _ b c :: _ => if s.cat == .MergedSpacer then some (b, c) else none
  | _ => none

theorem nextGroup_some {es : List Elem} {b : List Elem} {c : Tok} (h : nextGroup es = some (b, c)) :
    (∃ o tl, es = .group o b c :: tl) ∨
    (∃ s o tl, es = .leaf s :: .group o b c :: tl ∧ s.cat = .MergedSpacer) := by
  cases es with
  | nil => simp [nextGroup] at h
  | cons e1 es1 =>
    cases e1 with
    | group o b' c' =>
      simp only [nextGroup, Option.some.injEq, Prod.mk.injEq] at h
      obtain ⟨rfl, rfl⟩ := h
      exact .inl ⟨o, es1, rfl⟩
    | leaf s =>
      cases es1 with
      | nil => simp [nextGroup] at h
      | cons e2 es2 =>
        cases e2 with
        | group o b' c' =>
          by_cases hs : (s.cat == TC.MergedSpacer) = true
          · simp only [nextGroup, hs, if_true, Option.some.injEq, Prod.mk.injEq] at h
            obtain ⟨rfl, rfl⟩ := h
            exact .inr ⟨s, o, es2, rfl, by simpa using hs⟩
          · simp [nextGroup, hs] at h
        | _ => simp [nextGroup] at h
    | _ => simp [nextGroup] at h

theorem induct {P1 : Elem → Prop} {P2 : Arg → Prop} {P3 : List Elem → Prop} {P4 : List Arg → Prop}
  (leaf : ∀ t, P1 (.leaf t))
  (group : ∀ o b c, P3 b → P1 (.group o b c))
  (math : ∀ k o b c, P3 b → P1 (.math k o b c))
  (cmd : ∀ e n a1 a2 a3 a4, P4 a1 → P4 a2 → P4 a3 → P4 a4 → P1 (.cmd e n a1 a2 a3 a4))
  (item : ∀ e n a1 a2 a3 a4 b, P4 a1 → P4 a2 → P4 a3 → P4 a4 → P3 b → P1 (.item e n a1 a2 a3 a4 b))
  (env : ∀ e bg nm a2 a3 a4 b e2 en nm2, P4 a2 → P4 a3 → P4 a4 → P3 b →
    P1 (.env e bg nm a2 a3 a4 b e2 en nm2))
  (venv : ∀ e bg nm a2 a3 a4 vb e5, P4 a2 → P4 a3 → P4 a4 → P1 (.venv e bg nm a2 a3 a4 vb e5))
  (arg : ∀ sp o b c, P3 b → P2 (.mk sp o b c))
  (nil : P3 [])
  (cons : ∀ e es, P1 e → P3 es → (∀ b c, nextGroup es = some (b, c) → P3 b) → P3 (e :: es))
  (anil : P4 [])
  (acons : ∀ a as, P2 a → P4 as → P4 (a :: as)) :
    (∀ e, P1 e) ∧ (∀ a, P2 a) ∧ (∀ es, P3 es) ∧ (∀ as, P4 as) := by
  -- the body of a leading group is reached through the head of the list, so the motives for
  -- elements and lists carry it along
  let M1 : Elem → Prop := fun e => P1 e ∧ ∀ o b c, e = .group o b c → P3 b
  let M3 : List Elem → Prop := fun es => P3 es ∧ ∀ b c, nextGroup es = some (b, c) → P3 b
  have hnil : M3 [] := ⟨nil, fun b c h => by simp [nextGroup] at h⟩
  have hcons : ∀ e es, M1 e → M3 es → M3 (e :: es) := fun e es ie is =>
    ⟨cons e es ie.1 is.1 is.2, fun b c h => by
      rcases nextGroup_some h with ⟨o, tl, h⟩ | ⟨s, o, tl, h, hs⟩
      · exact ie.2 o b c (List.cons.inj h).1
      · exact is.2 b c (by rw [(List.cons.inj h).2]; rfl)⟩
  have h1 : ∀ e, M1 e := fun e => @Elem.rec M1 P2 M3 P4
    (fun t => ⟨leaf t, fun _ _ _ h => by cases h⟩)
    (fun o b c ih => ⟨group o b c ih.1, fun _ _ _ h => by cases h; exact ih.1⟩)
    (fun k o b c ih => ⟨math k o b c ih.1, fun _ _ _ h => by cases h⟩)
    (fun e n a1 a2 a3 a4 i1 i2 i3 i4 => ⟨cmd e n a1 a2 a3 a4 i1 i2 i3 i4, fun _ _ _ h => by cases h⟩)
    (fun e n a1 a2 a3 a4 b i1 i2 i3 i4 ib =>
      ⟨item e n a1 a2 a3 a4 b i1 i2 i3 i4 ib.1, fun _ _ _ h => by cases h⟩)
    (fun e bg nm a2 a3 a4 b e2 en nm2 i2 i3 i4 ib =>
      ⟨env e bg nm a2 a3 a4 b e2 en nm2 i2 i3 i4 ib.1, fun _ _ _ h => by cases h⟩)
    (fun e bg nm a2 a3 a4 vb e5 i2 i3 i4 => ⟨venv e bg nm a2 a3 a4 vb e5 i2 i3 i4, fun _ _ _ h => by cases h⟩)
    (fun sp o b c ih => arg sp o b c ih.1) hnil hcons anil acons e
  have h3 : ∀ es, M3 es := fun es => List.rec hnil (fun e es ih => hcons e es (h1 e) ih) es
  have h2 : ∀ a, P2 a := fun ⟨sp, o, b, c⟩ => arg sp o b c (h3 b).1
  exact ⟨fun e => (h1 e).1, h2, fun es => (h3 es).1,
    fun as => List.rec anil (fun a as ih => acons a as (h2 a) ih) as⟩
end TexSoup.Gram
