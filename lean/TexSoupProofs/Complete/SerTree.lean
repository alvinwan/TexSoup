import TexSoupProofs.Complete.Squeeze
/-!
# The serialisation of the tree of a document is the text of the squeezed document
-/
namespace TexSoup.Gram
open TexSoup

theorem flat_cons (t : Tok) (r : List Tok) : flat (t :: r) = t.text ++ flat r := rfl
@[simp] theorem flat_nil : flat [] = [] := rfl


theorem flat_nameArg_squeeze (n : NameArg) (h : n.canon = true) :
    flat n.squeeze.toks = 123 :: (n.nt.text ++ [125]) := by
  simp only [NameArg.canon, Bool.and_eq_true, beq_iff_eq] at h
  simp [NameArg.squeeze, NameArg.toks, flat_cons, h.1, h.2]

theorem ser_tree_all :
    (∀ e : Elem, canon e = true → ser (tree e) = flat (toks (squeeze e))) ∧
    (∀ (a : Arg) (k : GKind), canonArg k a = true → ser (treeArg k a) = flat (toksArg (squeezeArg a))) ∧
    (∀ es : List Elem, canonS es = true → serL (trees es) = flat (toksS (squeezeS es))) ∧
    (∀ (as : List Arg) (k : GKind), canonA k as = true →
      serL (treesA k as) = flat (toksA (squeezeA as))) := by
  apply induct
  · intro t _; simp [tree, squeeze, toks, ser, flat_cons]
  · intro o b c ib h
    simp only [canon, Bool.and_eq_true, beq_iff_eq] at h
    simp [tree, squeeze, toks, ser, flat_cons, flat_append, GKind.open, GKind.close, h.1.1, h.1.2,
      ib h.2]
  · intro k o b c ib h
    simp only [canon, Bool.and_eq_true, beq_iff_eq] at h
    simp [tree, squeeze, toks, ser, flat_cons, flat_append, h.1.1, h.1.2, ib h.2]
  · intro e n a1 a2 a3 a4 i1 i2 i3 i4 h
    simp only [canon, Bool.and_eq_true, beq_iff_eq] at h
    obtain ⟨⟨⟨⟨⟨he, hn⟩, c1⟩, c2⟩, c3⟩, c4⟩ := h
    simp [tree, squeeze, toks, ser, flat_cons, flat_append, serL_append, he, hn,
      i1 _ c1, i2 _ c2, i3 _ c3, i4 _ c4]
  · intro e n a1 a2 a3 a4 b i1 i2 i3 i4 ib h
    simp only [canon, Bool.and_eq_true, beq_iff_eq] at h
    obtain ⟨⟨⟨⟨⟨⟨he, hn⟩, c1⟩, c2⟩, c3⟩, c4⟩, cb⟩ := h
    simp [tree, squeeze, toks, ser, flat_cons, flat_append, serL_append, he, hn,
      i1 _ c1, i2 _ c2, i3 _ c3, i4 _ c4, ib cb]
  · intro e bg nm a2 a3 a4 b e2 en nm2 i2 i3 i4 ib h
    simp only [canon, Bool.and_eq_true, beq_iff_eq] at h
    obtain ⟨⟨⟨⟨⟨⟨⟨⟨⟨⟨⟨he, hbg⟩, cnm⟩, hst⟩, c2⟩, c3⟩, c4⟩, cb⟩, he2⟩, hen⟩, cnm2⟩, hn2⟩ := h
    simp [tree, squeeze, toks, ser, flat_cons, flat_append, serL_append, he, hbg, hst, he2, hen,
      flat_nameArg_squeeze nm cnm, flat_nameArg_squeeze nm2 cnm2, hn2, strBegin_eq, strEnd_eq,
      i2 _ c2, i3 _ c3, i4 _ c4, ib cb]
  · intro e bg nm a2 a3 a4 vb e5 i2 i3 i4 h
    simp only [canon, Bool.and_eq_true, beq_iff_eq] at h
    obtain ⟨⟨⟨⟨⟨⟨⟨he, hbg⟩, cnm⟩, hst⟩, c2⟩, c3⟩, c4⟩, h5⟩ := h
    simp [tree, squeeze, toks, ser, flat_cons, flat_append, serL_append, he, hbg, hst, h5,
      flat_nameArg_squeeze nm cnm, strBegin_eq, strEnd_eq, endMarker, i2 _ c2, i3 _ c3, i4 _ c4]
  · intro sp o b c ib k h
    simp only [canonArg, Bool.and_eq_true, beq_iff_eq] at h
    simp [treeArg, squeezeArg, toksArg, ser, flat_cons, flat_append, h.1.1, h.1.2, ib h.2]
  · intro _; simp
  · intro e es ie ies _ h
    simp only [canonS, Bool.and_eq_true] at h
    simp [flat_append, ie h.1, ies h.2]
  · intro _ _; simp
  · intro a as ia ias k h
    simp only [canonA, Bool.and_eq_true] at h
    simp [flat_append, ia k h.1, ias k h.2]

theorem ser_tree : ∀ e : Elem, canon e = true → ser (tree e) = flat (toks (squeeze e)) :=
  ser_tree_all.1
theorem serL_trees : ∀ es : List Elem, canonS es = true → serL (trees es) = flat (toksS (squeezeS es)) :=
  ser_tree_all.2.2.1
theorem ser_treeArg (k : GKind) : ∀ a : Arg, canonArg k a = true →
    ser (treeArg k a) = flat (toksArg (squeezeArg a)) :=
  fun a => ser_tree_all.2.1 a k
theorem serL_treesA (k : GKind) : ∀ as : List Arg, canonA k as = true →
    serL (treesA k as) = flat (toksA (squeezeA as)) :=
  fun as => ser_tree_all.2.2.2 as k

theorem serL_treeD (d : Doc) (h : canonD d = true) : serL (treeD d) = flat (toksD (squeezeD d)) :=
  serL_trees d h

end TexSoup.Gram
