import TexSoupProofs.Complete.Args
/-!
# Completeness of the reader: `read_args` takes exactly the argument run that `runOK` describes
-/
namespace TexSoup.Gram
open TexSoup

theorem readArgs_phases {g : Nat} {nreq nopt : Int} {tol : Bool} {m : Mode}
    {T0 T1 T2 T3 T4 : List Tok} {A1 A2 A3 A4 : List Expr} {c1 c2 c3 c4 : Int}
    (h0 : (nreq == 0 && nopt == 0) = false)
    (h1 : readArgOpt g nopt tol m T0 = .ok ((A1, c1), T1))
    (h2 : readArgReq g nreq tol m T1 = .ok ((A2, c2), T2))
    (h3 : (if nextIs .BracketBegin T2 = true then readArgOpt g c1 tol m T2
      else .ok (([], c1), T2)) = .ok ((A3, c3), T3))
    (h4 : (if nextIs .GroupBegin T3 = true then readArgReq g c2 tol m T3
      else .ok (([], c2), T3)) = .ok ((A4, c4), T4)) :
    readArgs (g + 1) nreq nopt tol m T0 = .ok (A1 ++ (A2 ++ (A3 ++ A4)), T4) := by
  simp only [readArgs, h0, h1, h2, h3, h4, Res.bind_ok, Bool.false_eq_true, ↓reduceIte]

/-- What `runOK` says for an open signature, phase by phase. -/
theorem open_facts {m : Mode} {sg : Int × Int} {a1 a2 a3 a4 : List Arg} {rest : List Tok}
    (hneg : sg.1 < 0 ∧ sg.2 < 0) (h : runOK sg a1 a2 a3 a4 rest = true)
    (w2 : WFa m .brace a2 = true) (w3 : WFa m .bracket a3 = true) (w4 : WFa m .brace a4 = true) :
    (hdCat (afterSp (toksA a2 ++ (toksA a3 ++ (toksA a4 ++ rest)))) != some .BracketBegin) = true
    ∧ (hdCat (afterSp (toksA a3 ++ (toksA a4 ++ rest))) != some .GroupBegin) = true
    ∧ tight a3 = true ∧ tight a4 = true
    ∧ (a3 = [] → nextIs .BracketBegin (toksA a4 ++ rest) = false)
    ∧ (a3 ≠ [] → (hdCat (afterSp (toksA a4 ++ rest)) != some .BracketBegin) = true)
    ∧ (a4 = [] → nextIs .GroupBegin rest = false)
    ∧ (a4 ≠ [] → (hdCat (afterSp rest) != some .GroupBegin) = true) := by
  unfold runOK at h
  rw [if_pos (by simp [hneg.1, hneg.2])] at h
  simp only [Bool.and_eq_true] at h
  obtain ⟨⟨ht3, ht4⟩, hm⟩ := h
  cases a2 with
  | nil =>
    cases a3 with
    | nil =>
      cases a4 with
      | nil =>
        simp only [Bool.and_eq_true] at hm
        refine ⟨by simpa using hm.1, by simpa using hm.2, ht3, ht4, fun _ => ?_, fun h => absurd rfl h,
          fun _ => nextIs_false_of_afterSp (by decide) hm.2, fun h => absurd rfl h⟩
        simpa using nextIs_false_of_afterSp (by decide) hm.1
      | cons d ds => simp at hm
    | cons c cs => cases a4 <;> simp at hm
  | cons b bs =>
    have f1 : ∀ Y, (hdCat (afterSp (toksA (b :: bs) ++ Y)) != some TC.BracketBegin) = true := by
      intro Y; rw [hdCat_afterSp_run Y w2]; decide
    cases a3 with
    | nil =>
      cases a4 with
      | nil =>
        simp only [Bool.and_eq_true] at hm
        refine ⟨f1 _, by simpa using hm.2, ht3, ht4, fun _ => ?_, fun h => absurd rfl h,
          fun _ => nextIs_false_of_afterSp (by decide) hm.2, fun h => absurd rfl h⟩
        simpa using nextIs_false_of_hdCat hm.1
      | cons d ds => simp at hm
    | cons c cs =>
      have f2 : ∀ Y, (hdCat (afterSp (toksA (c :: cs) ++ Y)) != some TC.GroupBegin) = true := by
        intro Y; rw [hdCat_afterSp_run Y w3]; decide
      cases a4 with
      | nil =>
        simp only [Bool.and_eq_true] at hm
        refine ⟨f1 _, f2 _, ht3, ht4, fun h => absurd h (List.cons_ne_nil _ _), fun _ => by simpa using hm.1,
          fun _ => nextIs_false_of_hdCat hm.2, fun h => absurd rfl h⟩
      | cons d ds =>
        refine ⟨f1 _, f2 _, ht3, ht4, fun h => absurd h (List.cons_ne_nil _ _), fun _ => ?_,
          fun h => absurd h (List.cons_ne_nil _ _), fun _ => hm⟩
        rw [hdCat_afterSp_run rest w4]; decide

/-- `read_args` on a run that is `runOK` for the signature: every group becomes an argument,
in order, and the tokens after the run are left alone. -/
theorem readArgs_run (tol : Bool) (m : Mode) (sg : Int × Int) (a1 a2 a3 a4 : List Arg)
    (k1 : ArgsOK a1) (k2 : ArgsOK a2) (k3 : ArgsOK a3) (k4 : ArgsOK a4)
    (w1 : WFa m .bracket a1 = true) (w2 : WFa m .brace a2 = true)
    (w3 : WFa m .bracket a3 = true) (w4 : WFa m .brace a4 = true)
    (rest : List Tok) (hrun : runOK sg a1 a2 a3 a4 rest = true) (f : Nat)
    (hf : 3 * (toksA a1 ++ (toksA a2 ++ (toksA a3 ++ (toksA a4 ++ rest)))).length + 2 ≤ f) :
    readArgs f sg.1 sg.2 tol m (toksA a1 ++ (toksA a2 ++ (toksA a3 ++ (toksA a4 ++ rest)))) =
      .ok (treesA .bracket a1 ++ (treesA .brace a2 ++ (treesA .bracket a3 ++ treesA .brace a4)), rest) := by
  obtain ⟨g, rfl⟩ := succ_of_le hf
  replace hf : 3 * (toksA a1 ++ (toksA a2 ++ (toksA a3 ++ (toksA a4 ++ rest)))).length + 1 ≤ g := by
    omega
  by_cases hneg : sg.1 < 0 ∧ sg.2 < 0
  · -- open signature
    obtain ⟨f1, f2, ht3, ht4, n3, c3, n4, c4⟩ := open_facts hneg hrun w2 w3 w4
    exact readArgs_phases (by simp; omega)
      (run_complete optReader tol m a1 k1 w1 sg.2 _ g (.inl hneg.2) (.inr f1) hf)
      (run_complete reqReader tol m a2 k2 w2 sg.1 _ g (.inl hneg.1) (.inr ⟨by omega, f2⟩) (fuel_drop hf))
      (phase_complete optReader tol m a3 k3 w3 (sg.2 - a1.length) _ g (.inl (by omega)) (fun h => .inr (n3 h))
        (fun h => ⟨ht3, .inr (c3 h)⟩) (fuel_drop (fuel_drop hf)))
      (phase_complete reqReader tol m a4 k4 w4 (sg.1 - a2.length) _ g (.inl (by omega)) (fun h => .inr (n4 h))
        (fun h => ⟨ht4, .inr ⟨by omega, c4 h⟩⟩) (fuel_drop (fuel_drop (fuel_drop hf))))
  · -- fixed signature
    unfold runOK at hrun
    rw [if_neg (by simpa using hneg)] at hrun
    by_cases hpos : 0 ≤ sg.1 ∧ 0 ≤ sg.2
    · rw [if_pos (by simp [hpos.1, hpos.2])] at hrun
      simp only [Bool.and_eq_true, Bool.or_eq_true, decide_eq_true_eq, List.isEmpty_iff,
        Bool.not_eq_true', List.isEmpty_eq_false_iff] at hrun
      obtain ⟨⟨⟨⟨⟨h4, ht3⟩, h32⟩, hl1⟩, hl2⟩, hfol⟩ := hrun
      subst h4
      simp only [toksA_nil, treesA_nil, List.nil_append, List.append_nil] at hf ⊢
      by_cases hz : (sg.1 == 0 && sg.2 == 0) = true
      · -- no arguments at all: `read_args` returns at once
        simp only [Bool.and_eq_true, beq_iff_eq] at hz
        have e1 : a1 = [] := List.eq_nil_of_length_eq_zero (by omega)
        have e2 : a2 = [] := List.eq_nil_of_length_eq_zero (by omega)
        have e3 : a3 = [] := List.eq_nil_of_length_eq_zero (by omega)
        subst e1 e2 e3
        simp only [toksA_nil, treesA_nil, List.nil_append]
        unfold readArgs
        rw [if_pos (by simp [hz.1, hz.2])]
      · have e : treesA GKind.bracket a1 ++ (treesA GKind.brace a2 ++ treesA GKind.bracket a3) =
            treesA GKind.bracket a1 ++ (treesA GKind.brace a2 ++ (treesA GKind.bracket a3 ++ [])) := by simp
        rw [e]
        have hstop1 : sg.2 - (a1.length : Int) = 0 ∨
            (hdCat (afterSp (toksA a2 ++ (toksA a3 ++ rest))) != some TC.BracketBegin) = true := by
          cases a2 with
          | cons b bs => right; rw [hdCat_afterSp_run _ w2]; decide
          | nil =>
            have e3 : a3 = [] := by
              rcases h32 with h | h
              · exact h
              · exact absurd rfl h
            subst e3
            simp only [toksA_nil, List.nil_append]
            rcases hfol with h | h
            · left; simp only [List.length_nil] at h; omega
            · right
              simp only [List.isEmpty_nil, if_true, Bool.and_eq_true, Bool.or_eq_true,
                Bool.not_eq_true'] at h
              rcases h.2 with h' | h'
              · cases h'
              · exact h'
        refine readArgs_phases (by simpa using hz)
          (run_complete optReader tol m a1 k1 w1 sg.2 _ g (.inr (by omega)) hstop1 hf)
          (run_complete reqReader tol m a2 k2 w2 sg.1 _ g (.inr (by omega)) (.inl (by omega)) (fuel_drop hf))
          (phase_complete optReader tol m a3 k3 w3 (sg.2 - a1.length) rest g (.inr (by omega))
            (fun h3 => by
              subst h3
              rcases hfol with h | h
              · left; simp only [List.length_nil] at h; omega
              · right
                simp only [if_true, Bool.and_eq_true] at h
                exact nextIs_false_of_hdCat h.1)
            (fun h3 => ⟨ht3, by
              rcases hfol with h | h
              · left; omega
              · right
                cases a3 with
                | nil => exact absurd rfl h3
                | cons c cs => simpa using h⟩)
            (fuel_drop (fuel_drop hf)))
          (T4 := rest) (c4 := sg.1 - a2.length) ?_
        have := phase_complete reqReader tol m [] .nil (WFa_nil _ _) (sg.1 - a2.length) rest g
          (by simp; omega) (fun _ => .inl (by omega)) (fun h => absurd rfl h)
          (fuel_drop (fuel_drop (fuel_drop hf)))
        simpa [GKind.tokBegin] using this
    · rw [if_neg (by simpa using hpos)] at hrun
      cases hrun

end TexSoup.Gram
