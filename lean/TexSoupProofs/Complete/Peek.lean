import TexSoupProofs.Complete.Cmd
/-!
# Completeness of the reader: the look-ahead of `read_env` (`read_command(src, 1, 0, skip=1)`)

Inside an environment body the reader peeks at every command with the signature of `\end`
before it reads it properly. The peek must not fail; this file shows that it does not, for
every construct that starts with a backslash.
-/
namespace TexSoup.Gram
open TexSoup

theorem cmdSig_given (a b : Int) (h : ¬ (a < 0 ∧ b < 0)) (x : Str) : cmdSig a b x = (a, b) := by
  unfold cmdSig
  rw [if_neg (by simpa using h)]

/-- `read_command(src, 0, 0)` on a name (the look-ahead of `read_item`): only the name. -/
theorem readCommand00_cons (g : Nat) (tol : Bool) (m : Mode) (n : Tok) (r : List Tok) :
    readCommand (g + 2) 0 0 tol m (n :: r) = .ok ((n, []), r) :=
  readCommand.cons (by rw [cmdSig_given 0 0 (by omega)]; exact readArgs.none rfl)

theorem readCommand00_ok (g : Nat) (tol : Bool) (m : Mode) (T : List Tok) :
    ∃ n T', readCommand (g + 2) 0 0 tol m T = .ok ((n, []), T') := by
  cases T with
  | nil => exact ⟨_, _, readCommand.nil (by rw [cmdSig_given 0 0 (by omega)]; exact readArgs.none rfl)⟩
  | cons n r => exact ⟨_, _, readCommand00_cons g tol m n r⟩

/-- One mandatory argument is always found (a group, a bare command, a bare token) or the
input is exhausted – provided that a group, if that is what follows, can be read. -/
theorem readArgReq_one_ok (g : Nat) (tol : Bool) (m' : Mode) (T : List Tok) (hg : 2 ≤ g)
    (h : ∀ o r, afterSp T = o :: r → o.cat = .GroupBegin →
      ∃ x T', readArg g .brace o.pos tol m' r = .ok (x, T')) :
    ∃ xs c T', readArgReq (g + 1) 1 tol m' T = .ok ((xs, c), T') ∧
      (c = 0 ∨ nextIs .GroupBegin T' = false) := by
  obtain ⟨g1, rfl⟩ : ∃ g1, g = g1 + 2 := ⟨g - 2, by omega⟩
  have hz : ∀ T2, readArgReq (g1 + 2) (1 - 1) tol m' T2 = .ok (([], 0), T2) :=
    fun _ => readArgReq.zero rfl
  cases hs : (readSpacer T).2 with
  | nil =>
    refine ⟨[], 1, T, readArgReq.none (by decide) (fun o r h' => by rw [hs] at h'; cases h'), .inr ?_⟩
    cases hn : nextIs TC.GroupBegin T with
    | false => rfl
    | true =>
      obtain ⟨o, r3, hs', _⟩ := nextIs_readSpacer (by decide) hn
      rw [hs] at hs'; cases hs'
  | cons o r =>
    by_cases hb : (o.cat == TC.GroupBegin) = true
    · obtain ⟨x, T', hx⟩ := h o r hs (by simpa using hb)
      exact ⟨_, _, _, readArgReq.group (by decide) hs hb hx (hz T'), .inl rfl⟩
    · by_cases he : (o.cat == TC.Escape) = true
      · obtain ⟨n, T', hn⟩ := readCommand00_ok g1 tol m' r
        exact ⟨_, _, _, readArgReq.command (by decide) hs hb (by decide) he hn (hz T'), .inl rfl⟩
      · exact ⟨_, _, _, readArgReq.token (by decide) hs hb (by decide) he (hz r), .inl rfl⟩

theorem readArgs10_ok (g : Nat) (tol : Bool) (m' : Mode) (T : List Tok) (hg : 2 ≤ g)
    (h : ∀ o r, afterSp T = o :: r → o.cat = .GroupBegin →
      ∃ x T', readArg g .brace o.pos tol m' r = .ok (x, T')) :
    ∃ args T', readArgs (g + 2) 1 0 tol m' T = .ok (args, T') := by
  obtain ⟨xs, c, T', hr, hc⟩ := readArgReq_one_ok g tol m' T hg h
  refine ⟨_, _, readArgs.run (an1 := ([], 0)) (an4 := ([], c)) (ts4 := T') (by decide)
    (readArgOpt.zero rfl) hr
    ((Decidable.em _).imp (fun hb => ⟨hb, readArgOpt.zero rfl⟩) fun hb => ⟨hb, rfl, rfl⟩) ?_⟩
  rcases hc with rfl | hc
  · exact (Decidable.em _).imp (fun hb => ⟨hb, readArgReq.zero rfl⟩) fun hb => ⟨hb, rfl, rfl⟩
  · exact .inr ⟨by rw [hc]; decide, rfl, rfl⟩

theorem readCommand10_ok (g : Nat) (tol : Bool) (m : Mode) (n : Tok) (T : List Tok) (hg : 2 ≤ g)
    (h : ∀ o r, afterSp T = o :: r → o.cat = .GroupBegin →
      ∃ x T', readArg g .brace o.pos tol (cmdMode n.text m) r = .ok (x, T')) :
    ∃ args T', readCommand (g + 3) 1 0 tol m (n :: T) = .ok ((n, args), T') := by
  obtain ⟨args, T', ha⟩ := readArgs10_ok g tol (cmdMode n.text m) T hg h
  exact ⟨args, T', readCommand.cons (by rw [cmdSig_given 1 0 (by omega)]; exact ha)⟩

/-- If a brace group follows the name (after an optional spacer), it is the first brace
argument of the run – which can be read – unless the run is empty and a free group follows. -/
theorem peek_run (tol : Bool) (m' : Mode) (a1 a2 a3 a4 : List Arg) (k2 : ArgsOK a2)
    (w1 : WFa m' .bracket a1 = true) (w2 : WFa m' .brace a2 = true) (Z : List Tok)
    (hno : a1 = [] → a2 = [] →
      a3 = [] ∧ a4 = [] ∧ (hdCat (afterSp Z) != some .GroupBegin) = true)
    (g : Nat) (hg : 3 * (toksA a1 ++ (toksA a2 ++ (toksA a3 ++ (toksA a4 ++ Z)))).length ≤ g) :
    ∀ o r, afterSp (toksA a1 ++ (toksA a2 ++ (toksA a3 ++ (toksA a4 ++ Z)))) = o :: r →
      o.cat = .GroupBegin → ∃ x T', readArg g .brace o.pos tol m' r = .ok (x, T') := by
  intro o r hs ho
  cases a1 with
  | cons a as =>
    exfalso
    have := hdCat_afterSp_run (toksA a2 ++ (toksA a3 ++ (toksA a4 ++ Z))) w1
    rw [hs] at this
    simp only [hdCat, ho, GKind.tokBegin, Option.some.injEq, reduceCtorEq] at this
  | nil =>
    cases a2 with
    | cons a as =>
      obtain ⟨hwa, _⟩ := WFa_cons w2
      cases a with
      | mk sp o2 b c =>
        obtain ⟨hsp, ho2, hc, hwb⟩ := WFarg_unfold hwa
        simp only [toksA_nil, List.nil_append, toksA_cons, toksArg, List.append_assoc,
          List.cons_append, afterSp] at hs hg
        rw [afterSp_arg _ hsp (by rw [ho2]; decide)] at hs
        simp only [List.cons.injEq] at hs
        obtain ⟨rfl, rfl⟩ := hs
        rw [List.length_append, List.length_cons] at hg
        exact ⟨_, _, readArg_complete .brace _ tol m' c hc b k2.head hwb _ g (by omega)⟩
    | nil =>
      exfalso
      obtain ⟨rfl, rfl, hz⟩ := hno rfl rfl
      simp only [toksA_nil, List.nil_append] at hs
      rw [hs] at hz
      simp [hdCat, ho] at hz

theorem runOK_noargs {sg : Int × Int} {a1 a3 a4 : List Arg} {nx : List Tok}
    (h : runOK sg a1 [] a3 a4 nx = true) : a3 = [] ∧ a4 = [] := by
  unfold runOK at h
  by_cases hneg : (decide (sg.1 < 0) && decide (sg.2 < 0)) = true
  · rw [if_pos hneg] at h
    cases a3 <;> cases a4 <;> simp at h ⊢
  · rw [if_neg hneg] at h
    by_cases hpos : (decide (0 ≤ sg.1) && decide (0 ≤ sg.2)) = true
    · rw [if_pos hpos] at h
      simp only [Bool.and_eq_true, List.isEmpty_iff, Bool.or_eq_true, List.isEmpty_nil, Bool.not_true,
        Bool.false_eq_true, or_false] at h
      exact ⟨h.1.1.1.2, h.1.1.1.1.1⟩
    · rw [if_neg hpos] at h; cases h

theorem runOK_noargs_open {sg : Int × Int} {a1 a3 a4 : List Arg} {nx : List Tok}
    (hneg : sg.1 < 0 ∧ sg.2 < 0) (h : runOK sg a1 [] a3 a4 nx = true) :
    (hdCat (afterSp nx) != some .GroupBegin) = true := by
  obtain ⟨rfl, rfl⟩ := runOK_noargs h
  unfold runOK at h
  rw [if_pos (by simp [hneg.1, hneg.2])] at h
  simp only [Bool.and_eq_true] at h
  exact h.2.2

/-- Only the constructs with a name start with a backslash. -/
theorem peek_of_no_name {e : Elem} (h : nameText e = none) : PeekOK e := by
  intro skip tol m rest g hwf hesc _ _
  obtain ⟨n, _, _, hn⟩ := toks_esc hwf hesc
  rw [h] at hn; cases hn

theorem cmd_peek (esc name : Tok) (a1 a2 a3 a4 : List Arg) (k2 : ArgsOK a2) :
    PeekOK (.cmd esc name a1 a2 a3 a4) := by
  intro skip tol m rest g hwf _ hf hfollow
  obtain ⟨_, w1, w2, _, _, hrun⟩ := WF_cmd.1 hwf
  rw [runOK_win] at hrun
  simp only [toks, List.cons_append, List.append_assoc, List.length_cons] at hf
  have hgrp : ∀ o r, afterSp (toksA a1 ++ (toksA a2 ++ (toksA a3 ++ (toksA a4 ++ rest)))) = o :: r →
      o.cat = .GroupBegin → ∃ x T', readArg g .brace o.pos tol (cmdMode name.text m) r = .ok (x, T') := by
    by_cases hno : a1 = [] ∧ a2 = []
    · obtain ⟨e1, e2⟩ := hno
      subst e1 e2
      obtain ⟨e3, e4⟩ := runOK_noargs hrun
      subst e3 e4
      simp only [toksA_nil, List.nil_append]
      exact hfollow rfl name.text rfl
    · exact peek_run tol (cmdMode name.text m) a1 a2 a3 a4 k2 w1 w2 rest
        (fun e1 e2 => absurd ⟨e1, e2⟩ hno) g (by omega)
  obtain ⟨args, T', hr⟩ := readCommand10_ok g tol m name _ (by omega) hgrp
  refine ⟨name, toksA a1 ++ (toksA a2 ++ (toksA a3 ++ toksA a4)), args, T', by simp only [toks, firstTok],
    rfl, ?_⟩
  simp only [List.append_assoc]
  exact hr

end TexSoup.Gram
