import TexSoupProofs.Complete.Rename
import TexSoupProofs.Complete.Canon
/-!
# The tree of a renamed document is the renamed tree

For a selection that looks at what the tree shows of a node (name and position, `Ren.ofQ`):
`tree (rename r e) = renameTree … (tree e)` – exactly the selected `.cmd` / `.nenv` nodes carry
the new name, everything else (arguments, contents, nesting, positions) is untouched.

Needed: names are written without surrounding blanks (the tree shows `strip name`), and the
selection hits no `\item` and no verbatim-like environment (`SQ`, which follows from the side
conditions `QOK` of the renaming). That is all a fact about the tree of an edited document needs
of well-formedness: `induct_sel`, by which `Complete/SetStrTree.lean` and `Complete/SetArgs.lean`
go as well.

At the end, on the side conditions themselves: renaming keeps environment names plain
(`envNamesPlain_rename_all`), and in a canonically spelled document command names are plain
(`cmdNamesPlain_of_canon_all`).
-/
namespace TexSoup.Gram
open TexSoup

variable {qc : Str → Int → Bool} {newc : Str} {qe : Str → Int → Bool} {newe : Str}

@[simp] theorem renameTreeL_nil : renameTreeL qc newc qe newe [] = [] := by simp [renameTreeL]
@[simp] theorem renameTreeL_cons (e : Expr) (es : List Expr) :
    renameTreeL qc newc qe newe (e :: es) = renameTree qc newc qe newe e :: renameTreeL qc newc qe newe es := by
  simp [renameTreeL]

theorem renameTreeL_append (a b : List Expr) :
    renameTreeL qc newc qe newe (a ++ b) = renameTreeL qc newc qe newe a ++ renameTreeL qc newc qe newe b := by
  induction a with
  | nil => simp
  | cons e es ih => simp [ih]

/-- What the tree of an edited document needs of the selection: it hits no `\item` and no
environment of the skip list. -/
structure SQ (qc qe : Str → Int → Bool) (skip : List Str) : Prop where
  item : ∀ pos, qc sItem pos = false
  skipOld : ∀ s pos, qe s pos = true → memStr s skip = false

theorem SQ.nil {qc qe : Str → Int → Bool} {skip : List Str} (h : SQ qc qe skip) : SQ qc qe [] :=
  ⟨h.item, fun _ _ _ => rfl⟩

theorem strip_sItem : strip sItem = sItem := by decide

/-- Induction over the well-formed documents with plain names for a fact about an edit of the
selected commands and environments: all that such a fact needs of well-formedness is that command
and environment names are shown as they are written, that an `\item` is not selected, and that
a verbatim-like environment is not selected. -/
theorem induct_sel {qc qe : Str → Int → Bool} {P1 : Elem → Prop} {P2 : Arg → Prop}
    {P3 : List Elem → Prop} {P4 : List Arg → Prop}
    (leaf : ∀ t, P1 (.leaf t))
    (group : ∀ o b c, P3 b → P1 (.group o b c))
    (math : ∀ k o b c, P3 b → P1 (.math k o b c))
    (cmd : ∀ e n a1 a2 a3 a4, strip n.text = n.text → P4 a1 → P4 a2 → P4 a3 → P4 a4 →
      P1 (.cmd e n a1 a2 a3 a4))
    (item : ∀ e n a1 a2 a3 a4 b, qc (strip n.text) e.pos = false → P4 a1 → P4 a2 → P4 a3 → P4 a4 →
      P3 b → P1 (.item e n a1 a2 a3 a4 b))
    (env : ∀ e bg nm a2 a3 a4 b e2 en nm2, strip nm.nt.text = nm.nt.text → P4 a2 → P4 a3 → P4 a4 →
      P3 b → P1 (.env e bg nm a2 a3 a4 b e2 en nm2))
    (venv : ∀ e bg nm a2 a3 a4 vb e5, qe (strip nm.nt.text) e.pos = false → P4 a2 → P4 a3 → P4 a4 →
      P1 (.venv e bg nm a2 a3 a4 vb e5))
    (arg : ∀ sp o b c, P3 b → P2 (.mk sp o b c))
    (nil : P3 [])
    (cons : ∀ e es, P1 e → P3 es → P3 (e :: es))
    (anil : P4 [])
    (acons : ∀ a as, P2 a → P4 as → P4 (a :: as)) :
    (∀ (e : Elem) (skip : List Str) (m : Mode) (nx : List Tok), WF skip m nx e = true →
      cmdNamesPlain e = true → envNamesPlain e = true → SQ qc qe skip → P1 e) ∧
    (∀ (a : Arg) (m : Mode) (k : GKind), WFarg m k a = true →
      cmdNamesPlainArg a = true → envNamesPlainArg a = true → SQ qc qe [] → P2 a) ∧
    (∀ (es : List Elem) (skip : List Str) (m : Mode) (ctx : Ctx) (nx : List Tok),
      WFs skip m ctx nx es = true → cmdNamesPlainS es = true → envNamesPlainS es = true →
      SQ qc qe skip → P3 es) ∧
    (∀ (as : List Arg) (m : Mode) (k : GKind), WFa m k as = true →
      cmdNamesPlainA as = true → envNamesPlainA as = true → SQ qc qe [] → P4 as) := by
  apply induct
  · intros; exact leaf _
  · intro o b c ib skip m nx h hc he hq
    exact group o b c (ib _ _ _ _ (WF_group.1 h).2.2 hc he hq.nil)
  · intro k o b c ib skip m nx h hc he hq
    exact math k o b c (ib _ _ _ _ (WF_math.1 h).2.2 hc he hq.nil)
  · intro e n a1 a2 a3 a4 i1 i2 i3 i4 skip m nx h hc he hq
    obtain ⟨_, w1, w2, w3, w4, _⟩ := WF_cmd.1 h
    simp only [cmdNamesPlain, Bool.and_eq_true, beq_iff_eq] at hc
    simp only [envNamesPlain, Bool.and_eq_true] at he
    exact cmd e n a1 a2 a3 a4 hc.1.1.1.1 (i1 _ _ w1 hc.1.1.1.2 he.1.1.1 hq.nil)
      (i2 _ _ w2 hc.1.1.2 he.1.1.2 hq.nil) (i3 _ _ w3 hc.1.2 he.1.2 hq.nil) (i4 _ _ w4 hc.2 he.2 hq.nil)
  · intro e n a1 a2 a3 a4 b i1 i2 i3 i4 ib skip m nx h hc he hq
    obtain ⟨⟨_, hitem, _⟩, w1, w2, w3, w4, _, hb, _⟩ := WF_item.1 h
    simp only [cmdNamesPlain, Bool.and_eq_true] at hc
    simp only [envNamesPlain, Bool.and_eq_true] at he
    exact item e n a1 a2 a3 a4 b (by rw [hitem, strip_sItem]; exact hq.item _)
      (i1 _ _ w1 hc.1.1.1.1.2 he.1.1.1.1 hq.nil) (i2 _ _ w2 hc.1.1.1.2 he.1.1.1.2 hq.nil)
      (i3 _ _ w3 hc.1.1.2 he.1.1.2 hq.nil) (i4 _ _ w4 hc.1.2 he.1.2 hq.nil) (ib _ _ _ _ hb hc.2 he.2 hq.nil)
  · intro e bg nm a2 a3 a4 b e2 en nm2 i2 i3 i4 ib skip m nx h hc he hq
    obtain ⟨_, _, w2, w3, w4, _, _, hb, _⟩ := WF_env.1 h
    simp only [cmdNamesPlain, Bool.and_eq_true] at hc
    simp only [envNamesPlain, Bool.and_eq_true, beq_iff_eq] at he
    exact env e bg nm a2 a3 a4 b e2 en nm2 he.1.1.1.1 (i2 _ _ w2 hc.1.1.1 he.1.1.1.2 hq.nil)
      (i3 _ _ w3 hc.1.1.2 he.1.1.2 hq.nil) (i4 _ _ w4 hc.1.2 he.1.2 hq.nil) (ib _ _ _ _ hb hc.2 he.2 hq)
  · intro e bg nm a2 a3 a4 vb e5 i2 i3 i4 skip m nx h hc he hq
    obtain ⟨_, _, w2, w3, w4, _, hskip, _⟩ := WF_venv.1 h
    simp only [cmdNamesPlain, Bool.and_eq_true] at hc
    simp only [envNamesPlain, Bool.and_eq_true] at he
    refine venv e bg nm a2 a3 a4 vb e5 ?_ (i2 _ _ w2 hc.1.1 he.1.1.2 hq.nil)
      (i3 _ _ w3 hc.1.2 he.1.2 hq.nil) (i4 _ _ w4 hc.2 he.2 hq.nil)
    cases hs : qe (strip nm.nt.text) e.pos with
    | false => rfl
    | true => rw [hq.skipOld _ _ hs] at hskip; cases hskip
  · intro sp o b c ib m k h hc he hq
    simp only [WFarg, Bool.and_eq_true] at h
    exact arg sp o b c (ib _ _ _ _ h.2 hc he hq)
  · intros; exact nil
  · intro e es ie ies _ skip m ctx nx h hc he hq
    obtain ⟨h1, _, h3, _⟩ := WFs_cons h
    simp only [cmdNamesPlainS, Bool.and_eq_true] at hc
    simp only [envNamesPlainS, Bool.and_eq_true] at he
    exact cons e es (ie _ _ _ h1 hc.1 he.1 hq) (ies _ _ _ _ h3 hc.2 he.2 hq)
  · intros; exact anil
  · intro a as ia ias m k h hc he hq
    obtain ⟨h1, h2⟩ := WFa_cons h
    simp only [cmdNamesPlainA, Bool.and_eq_true] at hc
    simp only [envNamesPlainA, Bool.and_eq_true] at he
    exact acons a as (ia _ _ h1 hc.1 he.1 hq) (ias _ _ h2 hc.2 he.2 hq)

/-- The side conditions of a renaming given by a selection on (name, position), where the skip
list `skip` is in force: selected command names have the role of `newc`, which is written
without blanks; selected environment names have the role of `newe`, and neither they nor
`newe` are in the skip list. -/
structure QOK (qc : Str → Int → Bool) (newc : Str) (qe : Str → Int → Bool) (newe : Str)
    (skip : List Str) : Prop where
  role : ∀ s pos, qc s pos = true → sameRole s newc = true ∧ strip newc = newc
  erole : ∀ s pos, qe s pos = true →
    envRole s newe = true ∧ memStr newe skip = false ∧ memStr s skip = false

theorem QOK.ren {skip : List Str} (h : QOK qc newc qe newe skip) : (Ren.ofQ qc newc qe newe).OK skip :=
  ⟨fun esc n hp => (h.role n.text esc.pos hp).1,
   fun esc nt hp => ⟨(h.erole nt.text esc.pos hp).1, (h.erole nt.text esc.pos hp).2.1⟩⟩

theorem QOK.sq {skip : List Str} (h : QOK qc newc qe newe skip) : SQ qc qe skip := by
  refine ⟨fun pos => ?_, fun s pos hq => (h.erole s pos hq).2.2⟩
  cases hq : qc sItem pos with
  | false => rfl
  | true =>
    have := (h.role sItem pos hq).1
    simp [sameRole] at this

theorem QOK.plaine {skip : List Str} (h : QOK qc newc qe newe skip) {s : Str} {pos : Int}
    (hq : qe s pos = true) : strip newe = newe := by
  have := (h.erole s pos hq).1
  simp only [envRole, Bool.and_eq_true, beq_iff_eq] at this
  exact this.1

theorem tree_rename_all {skip0 : List Str} (hq : QOK qc newc qe newe skip0) :
    (∀ (e : Elem) (skip : List Str) (m : Mode) (nx : List Tok),
      WF skip m nx e = true → cmdNamesPlain e = true → envNamesPlain e = true → SQ qc qe skip →
      tree (rename (Ren.ofQ qc newc qe newe) e) = renameTree qc newc qe newe (tree e)) ∧
    (∀ (a : Arg) (m : Mode) (k : GKind),
      WFarg m k a = true → cmdNamesPlainArg a = true → envNamesPlainArg a = true → SQ qc qe [] →
      ∀ gk, treeArg gk (renameArg (Ren.ofQ qc newc qe newe) a) = renameTree qc newc qe newe (treeArg gk a)) ∧
    (∀ (es : List Elem) (skip : List Str) (m : Mode) (ctx : Ctx) (nx : List Tok),
      WFs skip m ctx nx es = true → cmdNamesPlainS es = true → envNamesPlainS es = true → SQ qc qe skip →
      trees (renameS (Ren.ofQ qc newc qe newe) es) = renameTreeL qc newc qe newe (trees es)) ∧
    (∀ (as : List Arg) (m : Mode) (k : GKind),
      WFa m k as = true → cmdNamesPlainA as = true → envNamesPlainA as = true → SQ qc qe [] →
      ∀ gk, treesA gk (renameA (Ren.ofQ qc newc qe newe) as) =
        renameTreeL qc newc qe newe (treesA gk as)) := by
  apply induct_sel
  · intro t; simp [rename, tree, renameTree]
  · intro o b c ib; simp [rename, tree, renameTree, ib]
  · intro k o b c ib; simp [rename, tree, renameTree, ib]
  · intro e n a1 a2 a3 a4 hn i1 i2 i3 i4
    have hname : strip ((Ren.ofQ qc newc qe newe).cmdName e n).text =
        if qc (strip n.text) e.pos then newc else strip n.text := by
      rw [hn]
      simp only [Ren.cmdName, Ren.ofQ]
      by_cases hsel : qc n.text e.pos = true
      · simp only [hsel, if_true]; exact (hq.role _ _ hsel).2
      · simp only [hsel]; exact hn
    simp only [rename, tree, renameTree, renameTreeL_append, renameTreeL_nil, hname, i1, i2, i3, i4]
  · intro e n a1 a2 a3 a4 b hsel i1 i2 i3 i4 ib
    simp only [rename, tree, renameTree, renameTreeL_append, hsel, i1, i2, i3, i4, ib]
    rfl
  · intro e bg nm a2 a3 a4 b e2 en nm2 hn i2 i3 i4 ib
    have hname : strip ((Ren.ofQ qc newc qe newe).envName ((Ren.ofQ qc newc qe newe).pe e nm.nt) nm).nt.text =
        if qe (strip nm.nt.text) e.pos then newe else strip nm.nt.text := by
      rw [hn]
      simp only [Ren.envName, Ren.ofQ]
      by_cases hsel : qe nm.nt.text e.pos = true
      · simp only [hsel, if_true]; exact hq.plaine hsel
      · simp only [hsel]; exact hn
    simp only [rename, tree, renameTree, renameTreeL_append, hname, i2, i3, i4, ib]
  · intro e bg nm a2 a3 a4 vb e5 hsel i2 i3 i4
    simp only [rename, tree, renameTree, renameTreeL_append, hsel, renameTreeL_cons, renameTreeL_nil,
      i2, i3, i4]
    rfl
  · intro sp o b c ib gk; simp [renameArg, treeArg, renameTree, ib]
  · simp
  · intro e es ie ies; simp [ie, ies]
  · simp
  · intro a as ia ias gk; simp [ia gk, ias gk]

theorem tree_rename : ∀ (e : Elem) (skip : List Str) (m : Mode) (nx : List Tok),
    WF skip m nx e = true → cmdNamesPlain e = true → envNamesPlain e = true →
    QOK qc newc qe newe skip →
    tree (rename (Ren.ofQ qc newc qe newe) e) = renameTree qc newc qe newe (tree e) :=
  fun e skip m nx h hc he hq => (tree_rename_all hq).1 e skip m nx h hc he hq.sq
theorem trees_rename : ∀ (es : List Elem) (skip : List Str) (m : Mode) (ctx : Ctx) (nx : List Tok),
    WFs skip m ctx nx es = true → cmdNamesPlainS es = true → envNamesPlainS es = true →
    QOK qc newc qe newe skip →
    trees (renameS (Ren.ofQ qc newc qe newe) es) = renameTreeL qc newc qe newe (trees es) :=
  fun es skip m ctx nx h hc he hq => (tree_rename_all hq).2.2.1 es skip m ctx nx h hc he hq.sq
theorem treeArg_rename : ∀ (a : Arg) (m : Mode) (k gk : GKind),
    WFarg m k a = true → cmdNamesPlainArg a = true → envNamesPlainArg a = true →
    ∀ {skip : List Str}, QOK qc newc qe newe skip →
    treeArg gk (renameArg (Ren.ofQ qc newc qe newe) a) = renameTree qc newc qe newe (treeArg gk a) :=
  fun a m k gk h hc he _ hq => (tree_rename_all hq).2.1 a m k h hc he hq.sq.nil gk
theorem treesA_rename : ∀ (as : List Arg) (m : Mode) (k gk : GKind),
    WFa m k as = true → cmdNamesPlainA as = true → envNamesPlainA as = true →
    ∀ {skip : List Str}, QOK qc newc qe newe skip →
    treesA gk (renameA (Ren.ofQ qc newc qe newe) as) = renameTreeL qc newc qe newe (treesA gk as) :=
  fun as m k gk h hc he _ hq => (tree_rename_all hq).2.2.2 as m k h hc he hq.sq.nil gk

theorem treeD_rename {skip : List Str} (d : Doc) (hwf : WFD skip d = true)
    (hc : cmdNamesPlainS d = true) (he : envNamesPlainS d = true) (hq : QOK qc newc qe newe skip) :
    treeD (renameD (Ren.ofQ qc newc qe newe) d) = renameTreeL qc newc qe newe (treeD d) :=
  trees_rename d _ _ _ _ hwf hc he hq

theorem envNamesPlain_rename_all {r : Ren} {skip : List Str} (hr : r.OK skip) :
    (∀ e : Elem, envNamesPlain e = true → envNamesPlain (rename r e) = true) ∧
    (∀ a : Arg, envNamesPlainArg a = true → envNamesPlainArg (renameArg r a) = true) ∧
    (∀ es : List Elem, envNamesPlainS es = true → envNamesPlainS (renameS r es) = true) ∧
    (∀ as : List Arg, envNamesPlainA as = true → envNamesPlainA (renameA r as) = true) := by
  apply induct
  · intros; rfl
  · intro o b c ib h
    simp only [envNamesPlain] at h
    simp only [rename, envNamesPlain]; exact ib h
  · intro k o b c ib h
    simp only [envNamesPlain] at h
    simp only [rename, envNamesPlain]; exact ib h
  · intro e n a1 a2 a3 a4 i1 i2 i3 i4 h
    simp only [envNamesPlain, Bool.and_eq_true] at h
    simp only [rename, envNamesPlain, Bool.and_eq_true]
    exact ⟨⟨⟨i1 h.1.1.1, i2 h.1.1.2⟩, i3 h.1.2⟩, i4 h.2⟩
  · intro e n a1 a2 a3 a4 b i1 i2 i3 i4 ib h
    simp only [envNamesPlain, Bool.and_eq_true] at h
    simp only [rename, envNamesPlain, Bool.and_eq_true]
    exact ⟨⟨⟨⟨i1 h.1.1.1.1, i2 h.1.1.1.2⟩, i3 h.1.1.2⟩, i4 h.1.2⟩, ib h.2⟩
  · intro e bg nm a2 a3 a4 b e2 en nm2 i2 i3 i4 ib h
    simp only [envNamesPlain, Bool.and_eq_true] at h
    simp only [rename, envNamesPlain, Bool.and_eq_true]
    refine ⟨⟨⟨⟨?_, i2 h.1.1.1.2⟩, i3 h.1.1.2⟩, i4 h.1.2⟩, ib h.2⟩
    by_cases hp : r.pe e nm.nt = true
    · have := (hr.env e nm.nt hp).1
      simp only [envRole, Bool.and_eq_true] at this
      simp only [Ren.envName, hp, if_true]; exact this.1
    · have hp' : r.pe e nm.nt = false := by simpa using hp
      simp only [Ren.envName, hp']; exact h.1.1.1.1
  · intro e bg nm a2 a3 a4 vb e5 i2 i3 i4 h
    simp only [envNamesPlain, Bool.and_eq_true] at h
    simp only [rename, envNamesPlain, Bool.and_eq_true]
    exact ⟨⟨⟨h.1.1.1, i2 h.1.1.2⟩, i3 h.1.2⟩, i4 h.2⟩
  · intro sp o b c ib h
    simp only [envNamesPlainArg] at h
    simp only [renameArg, envNamesPlainArg]; exact ib h
  · intros; rfl
  · intro e es ie ies _ h
    simp only [envNamesPlainS, Bool.and_eq_true] at h
    simp only [renameS_cons, envNamesPlainS, Bool.and_eq_true]
    exact ⟨ie h.1, ies h.2⟩
  · intros; rfl
  · intro a as ia ias h
    simp only [envNamesPlainA, Bool.and_eq_true] at h
    simp only [renameA_cons, envNamesPlainA, Bool.and_eq_true]
    exact ⟨ia h.1, ias h.2⟩

theorem envNamesPlain_rename {r : Ren} {skip : List Str} (hr : r.OK skip) :
    ∀ e : Elem, envNamesPlain e = true → envNamesPlain (rename r e) = true :=
  (envNamesPlain_rename_all hr).1
theorem envNamesPlainS_rename {r : Ren} {skip : List Str} (hr : r.OK skip) :
    ∀ es : List Elem, envNamesPlainS es = true → envNamesPlainS (renameS r es) = true :=
  (envNamesPlain_rename_all hr).2.2.1
theorem envNamesPlainArg_rename {r : Ren} {skip : List Str} (hr : r.OK skip) :
    ∀ a : Arg, envNamesPlainArg a = true → envNamesPlainArg (renameArg r a) = true :=
  (envNamesPlain_rename_all hr).2.1
theorem envNamesPlainA_rename {r : Ren} {skip : List Str} (hr : r.OK skip) :
    ∀ as : List Arg, envNamesPlainA as = true → envNamesPlainA (renameA r as) = true :=
  (envNamesPlain_rename_all hr).2.2.2

theorem cmdNamesPlain_of_canon_all :
    (∀ e : Elem, canon e = true → cmdNamesPlain e = true) ∧
    (∀ (a : Arg) (k : GKind), canonArg k a = true → cmdNamesPlainArg a = true) ∧
    (∀ es : List Elem, canonS es = true → cmdNamesPlainS es = true) ∧
    (∀ (as : List Arg) (k : GKind), canonA k as = true → cmdNamesPlainA as = true) := by
  apply induct
  · intros; rfl
  · intro o b c ib h
    simp only [canon, Bool.and_eq_true] at h
    simp only [cmdNamesPlain]; exact ib h.2
  · intro k o b c ib h
    simp only [canon, Bool.and_eq_true] at h
    simp only [cmdNamesPlain]; exact ib h.2
  · intro e n a1 a2 a3 a4 i1 i2 i3 i4 h
    simp only [canon, Bool.and_eq_true] at h
    simp only [cmdNamesPlain, Bool.and_eq_true]
    exact ⟨⟨⟨⟨h.1.1.1.1.2, i1 _ h.1.1.1.2⟩, i2 _ h.1.1.2⟩, i3 _ h.1.2⟩, i4 _ h.2⟩
  · intro e n a1 a2 a3 a4 b i1 i2 i3 i4 ib h
    simp only [canon, Bool.and_eq_true] at h
    simp only [cmdNamesPlain, Bool.and_eq_true]
    exact ⟨⟨⟨⟨⟨h.1.1.1.1.1.2, i1 _ h.1.1.1.1.2⟩, i2 _ h.1.1.1.2⟩, i3 _ h.1.1.2⟩, i4 _ h.1.2⟩, ib h.2⟩
  · intro e bg nm a2 a3 a4 b e2 en nm2 i2 i3 i4 ib h
    simp only [canon, Bool.and_eq_true] at h
    obtain ⟨⟨⟨⟨⟨⟨⟨⟨_, k2⟩, k3⟩, k4⟩, kb⟩, _⟩, _⟩, _⟩, _⟩ := h
    simp only [cmdNamesPlain, Bool.and_eq_true]
    exact ⟨⟨⟨i2 _ k2, i3 _ k3⟩, i4 _ k4⟩, ib kb⟩
  · intro e bg nm a2 a3 a4 vb e5 i2 i3 i4 h
    simp only [canon, Bool.and_eq_true] at h
    obtain ⟨⟨⟨⟨_, k2⟩, k3⟩, k4⟩, _⟩ := h
    simp only [cmdNamesPlain, Bool.and_eq_true]
    exact ⟨⟨i2 _ k2, i3 _ k3⟩, i4 _ k4⟩
  · intro sp o b c ib k h
    simp only [canonArg, Bool.and_eq_true] at h
    simp only [cmdNamesPlainArg]; exact ib h.2
  · intros; rfl
  · intro e es ie ies _ h
    simp only [canonS, Bool.and_eq_true] at h
    simp only [cmdNamesPlainS, Bool.and_eq_true]
    exact ⟨ie h.1, ies h.2⟩
  · intros; rfl
  · intro a as ia ias k h
    simp only [canonA, Bool.and_eq_true] at h
    simp only [cmdNamesPlainA, Bool.and_eq_true]
    exact ⟨ia k h.1, ias k h.2⟩

theorem cmdNamesPlain_of_canon : ∀ e : Elem, canon e = true → cmdNamesPlain e = true :=
  cmdNamesPlain_of_canon_all.1
theorem cmdNamesPlainS_of_canon : ∀ es : List Elem, canonS es = true → cmdNamesPlainS es = true :=
  cmdNamesPlain_of_canon_all.2.2.1
theorem cmdNamesPlainArg_of_canon (k : GKind) : ∀ a : Arg, canonArg k a = true → cmdNamesPlainArg a = true :=
  fun a => cmdNamesPlain_of_canon_all.2.1 a k
theorem cmdNamesPlainA_of_canon (k : GKind) : ∀ as : List Arg, canonA k as = true → cmdNamesPlainA as = true :=
  fun as => cmdNamesPlain_of_canon_all.2.2.2 as k

theorem cmdNamesPlainS_of_separated {skip : List Str} {d : Doc} (hwf : WFD skip d = true)
    (hsep : Separated none (toksD d)) (hen : envNamesPlainS d = true) : cmdNamesPlainS d = true :=
  cmdNamesPlainS_of_canon d (canonD_of_separated hwf hsep hen)

end TexSoup.Gram
