import TexSoupProofs.Complete.Main
import TexSoupProofs.Reader.PosFree
import TexSoupProofs.Properties.TokInverse
/-!
# From token lists to source text, without assumptions on the positions

`parse` on the text of a separated token list reads the same tokens with recomputed positions;
the tree has the same shape (`shapeL`) as the tree read from the list itself.
-/
namespace TexSoup.Gram
open TexSoup

theorem reposition_length (p : Nat) (ts : List Tok) : (reposition p ts).length = ts.length := by
  induction ts generalizing p with
  | nil => rfl
  | cons t r ih => simp [reposition, ih]

theorem reposition_map_zt (p : Nat) (ts : List Tok) : (reposition p ts).map zt = ts.map zt := by
  induction ts generalizing p with
  | nil => rfl
  | cons t r ih => simp [reposition, ih, zt]

/-- Reading a separated token list from its text gives a tree of the same shape as reading the
list itself (the tokenizer recomputes the positions, nothing else). -/
theorem parse_text_of_tokens (tol : Bool) (skip : List Str) (ts : List Tok) (t : List Expr)
    (hsep : Separated none ts)
    (h : readTex (parseFuel ts) (Tables.skipEnvNames ++ skip) tol ts = .ok t) :
    ∃ t2, parse tol skip (flat ts) = .ok t2 ∧ shapeL t2 = shapeL t := by
  rw [parse_eq_readTex (tokenize_inverse hsep)]
  have hf : parseFuel (reposition 0 ts) = parseFuel ts := by
    unfold parseFuel; rw [reposition_length]
  rw [hf]
  have hk := readTex_same_keys (f := parseFuel ts) (skip := Tables.skipEnvNames ++ skip) (tol := tol)
    (reposition_map_zt 0 ts)
  rw [h] at hk
  cases hr : readTex (parseFuel ts) (Tables.skipEnvNames ++ skip) tol (reposition 0 ts) with
  | error e => rw [hr] at hk; cases hk
  | ok t2 =>
    rw [hr] at hk
    simp only [Except.map, Except.ok.injEq] at hk
    exact ⟨t2, rfl, hk⟩

/-- **A well-formed, separated document parses from its text to a tree of the shape of its
syntax tree** – whatever positions its tokens carry. -/
theorem document_parses_shape (tol : Bool) (skip : List Str) (d : Doc)
    (hwf : WFD (Tables.skipEnvNames ++ skip) d = true) (hsep : Separated none (toksD d)) :
    ∃ t2, parse tol skip (flat (toksD d)) = .ok t2 ∧ shapeL t2 = shapeL (treeD d) :=
  parse_text_of_tokens tol skip _ _ hsep (document_complete _ tol d hwf)

end TexSoup.Gram
