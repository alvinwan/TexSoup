import TexSoupProofs.Complete.Main
import TexSoupProofs.Properties.TestVectors
/-!
# C09 for documents of the grammar – a command takes exactly the argument groups written for it

A command written `\name` followed by bracket groups, then brace groups, each optionally after
one spacer token, is read with exactly these groups as arguments – kind, order, contents –
and what follows is left alone, *provided* what follows satisfies `Gram.runOK`
(`command_takes_its_groups`). The frame condition is also *necessary*: a brace group that
follows (after an optional spacer), a bracket group that follows while there is no brace group
yet, or a bracket group directly after the last brace group **is** taken as one more argument
(`following_brace_group_is_absorbed`, `following_bracket_group_is_absorbed`,
`tight_bracket_after_braces_is_absorbed`) – the reader's result is exhibited. What detaches a
group: a spacer in front of a `[` once a brace group has been read, or any token that is not a
spacer or the opener.
-/
namespace TexSoup.C09G
open TexSoup TexSoup.Gram

theorem toksA_append (a b : List Arg) : toksA (a ++ b) = toksA a ++ toksA b := by
  induction a with
  | nil => simp
  | cons x xs ih => simp [ih]

theorem treesA_append (k : GKind) (a b : List Arg) : treesA k (a ++ b) = treesA k a ++ treesA k b := by
  induction a with
  | nil => simp
  | cons x xs ih => simp [ih]

/-- **Attachment.** Brackets, then braces, each after an optional spacer (which is not part of
the tree); the tokens after the run are handed on untouched. -/
theorem command_takes_its_groups (skip : List Str) (tol : Bool) (m : Mode) (esc name : Tok)
    (a1 a2 : List Arg) (rest : List Tok) (f : Nat)
    (hwf : WF skip m (win rest) (.cmd esc name a1 a2 [] []) = true)
    (hf : 3 * (toks (.cmd esc name a1 a2 [] []) ++ rest).length + 1 ≤ f) :
    readExpr f skip tol m (esc :: name :: (toksA a1 ++ toksA a2) ++ rest) =
      .ok (.cmd (strip name.text) (treesA .bracket a1 ++ treesA .brace a2) [] esc.pos, rest) := by
  have h := readExpr_complete _ skip tol m rest f hwf hf
  simpa [toks, tree] using h

/-- The frame condition for such a run under an open signature, spelled out. -/
theorem runOK_open (sg : Int × Int) (hneg : sg.1 < 0 ∧ sg.2 < 0) (a1 a2 : List Arg) (nx : List Tok) :
    runOK sg a1 a2 [] [] nx =
      (match a2 with
       | [] => hdCat (afterSp nx) != some .BracketBegin && hdCat (afterSp nx) != some .GroupBegin
       | _ :: _ => hdCat nx != some .BracketBegin && hdCat (afterSp nx) != some .GroupBegin) := by
  unfold runOK
  rw [if_pos (by simp [hneg.1, hneg.2])]
  cases a2 <;> simp [tight]

/-- **Necessity, braces.** A brace group `g` that follows the run (after an optional spacer)
is one more argument: the tokens of `\name a1 a2` followed by the tokens of `g` are read as
`\name a1 (a2 ++ [g])`. -/
theorem following_brace_group_is_absorbed (skip : List Str) (tol : Bool) (m : Mode) (esc name : Tok)
    (a1 a2 : List Arg) (g : Arg) (rest : List Tok) (f : Nat)
    (hwf : WF skip m (win rest) (.cmd esc name a1 (a2 ++ [g]) [] []) = true)
    (hf : 3 * (toks (.cmd esc name a1 (a2 ++ [g]) [] []) ++ rest).length + 1 ≤ f) :
    readExpr f skip tol m (toks (.cmd esc name a1 a2 [] []) ++ (toksArg g ++ rest)) =
      .ok (.cmd (strip name.text) (treesA .bracket a1 ++ (treesA .brace a2 ++ [treeArg .brace g])) []
        esc.pos, rest) := by
  have h := readExpr_complete _ skip tol m rest f hwf hf
  simpa [toks, tree, toksA_append, treesA_append] using h

/-- **Necessity, brackets.** While there is no brace group yet, a bracket group that follows
(after an optional spacer) is one more optional argument. -/
theorem following_bracket_group_is_absorbed (skip : List Str) (tol : Bool) (m : Mode) (esc name : Tok)
    (a1 : List Arg) (g : Arg) (rest : List Tok) (f : Nat)
    (hwf : WF skip m (win rest) (.cmd esc name (a1 ++ [g]) [] [] []) = true)
    (hf : 3 * (toks (.cmd esc name (a1 ++ [g]) [] [] []) ++ rest).length + 1 ≤ f) :
    readExpr f skip tol m (toks (.cmd esc name a1 [] [] []) ++ (toksArg g ++ rest)) =
      .ok (.cmd (strip name.text) (treesA .bracket a1 ++ [treeArg .bracket g]) [] esc.pos, rest) := by
  have h := readExpr_complete _ skip tol m rest f hwf hf
  simpa [toks, tree, toksA_append, treesA_append] using h

/-- **Necessity, a bracket directly after the braces.** After the last brace group a `[` that
follows *immediately* still belongs to the command (third phase of `read_args`); with a spacer
in between it does not (`runOK_open`: only `hdCat nx`, not `hdCat (afterSp nx)`, is asked not
to be `[`). -/
theorem tight_bracket_after_braces_is_absorbed (skip : List Str) (tol : Bool) (m : Mode) (esc name : Tok)
    (a1 a2 : List Arg) (g : Arg) (rest : List Tok) (f : Nat)
    (hwf : WF skip m (win rest) (.cmd esc name a1 a2 [g] []) = true)
    (hf : 3 * (toks (.cmd esc name a1 a2 [g] []) ++ rest).length + 1 ≤ f) :
    readExpr f skip tol m (toks (.cmd esc name a1 a2 [] []) ++ (toksArg g ++ rest)) =
      .ok (.cmd (strip name.text) (treesA .bracket a1 ++ (treesA .brace a2 ++ [treeArg .bracket g])) []
        esc.pos, rest) := by
  have h := readExpr_complete _ skip tol m rest f hwf hf
  simpa [toks, tree] using h

private def t (s : Str) (p : Nat) (c : TC) : Tok := ⟨s, p, c⟩
private def foo : Tok := t [102, 111, 111] 1 .CommandName
private def gA : Arg := .mk none (t [123] 4 .GroupBegin) [.leaf (t [97] 5 .Text)] (t [125] 6 .GroupEnd)
private def gB : Arg := .mk (some (t [32] 7 .MergedSpacer)) (t [123] 8 .GroupBegin) [.leaf (t [98] 9 .Text)]
  (t [125] 10 .GroupEnd)
private def bC : Arg := .mk (some (t [32] 7 .MergedSpacer)) (t [91] 8 .BracketBegin) [.leaf (t [99] 9 .Text)]
  (t [93] 10 .BracketEnd)

/-- `\foo{a} {b}`: written as command-with-one-argument followed by a free group, it is not
well-formed – and read as the command with two arguments. -/
example : WFD [] [.cmd (t [92] 0 .Escape) foo [] [gA] [] [],
    .leaf (t [32] 7 .MergedSpacer),
    .group (t [123] 8 .GroupBegin) [.leaf (t [98] 9 .Text)] (t [125] 10 .GroupEnd)] = false := by decide +kernel
example : WFD [] [.cmd (t [92] 0 .Escape) foo [] [gA, gB] [] []] = true := by decide +kernel
example : readTex 30 [] false (toksD [.cmd (t [92] 0 .Escape) foo [] [gA] [] [],
    .leaf (t [32] 7 .MergedSpacer),
    .group (t [123] 8 .GroupBegin) [.leaf (t [98] 9 .Text)] (t [125] 10 .GroupEnd)]) =
    .ok [.cmd [102, 111, 111] [.group .brace [.text [97] 5] 4, .group .brace [.text [98] 9] 8] [] 0] := by decide +kernel

/-- `\foo{a} [c]`: the spacer detaches the bracket – three elements, all well-formed. -/
example : WFD [] [.cmd (t [92] 0 .Escape) foo [] [gA] [] [],
    .leaf (t [32] 7 .MergedSpacer), .leaf (t [91] 8 .BracketBegin), .leaf (t [99] 9 .Text),
    .leaf (t [93] 10 .BracketEnd)] = true := by decide +kernel
/-- … while `\foo [c]` (no brace group yet) takes it. -/
example : WFD [] [.cmd (t [92] 0 .Escape) foo [] [] [] [],
    .leaf (t [32] 7 .MergedSpacer), .leaf (t [91] 8 .BracketBegin), .leaf (t [99] 9 .Text),
    .leaf (t [93] 10 .BracketEnd)] = false := by decide +kernel
example : WFD [] [.cmd (t [92] 0 .Escape) foo [bC] [] [] []] = true := by decide +kernel

end TexSoup.C09G
