import TexSoupProofs.TokLemmas.SepFacts
/-! # What follows a lone backslash -/
namespace TexSoup

/-- In the token list of a string without ignored characters, every `Escape` token is either
the last token or immediately followed by a `CommandName` or `PunctuationCommandName` token
whose text contains no whitespace, so that `strip` is the identity on it. -/
theorem after_escape {s : Str} {ts : List Tok} (hs : ∀ c ∈ s, isIgnored (catOf c) = false)
    (h : tokenize s = some ts) (pre : List Tok) (t : Tok) (post : List Tok)
    (hsplit : ts = pre ++ t :: post) (ht : t.cat = .Escape) :
    post = [] ∨ ∃ u post', post = u :: post' ∧
      (u.cat = .CommandName ∨ u.cat = .PunctuationCommandName) ∧
      (∀ c ∈ u.text, isSpaceCh c = false) ∧ strip u.text = u.text := by
  cases post with
  | nil => exact Or.inl rfl
  | cons u post' =>
    have hsep := (tokLoop_separated _ none ⟨none, 0, s⟩ h hs).1
    rw [hsplit] at hsep
    have hg := name_after_escape hsep.suffix ht
    exact Or.inr ⟨u, post', rfl, hg.1, hg.2, strip_of_no_space hg.2⟩

example : (∀ c ∈ ([92, 98, 102, 32, 92, 108, 101, 102, 116, 40, 92] : Str),
      isIgnored (catOf c) = false) ∧
    tokenize [92, 98, 102, 32, 92, 108, 101, 102, 116, 40, 92] = some
      ([] ++ ⟨[92], 0, .Escape⟩ :: [⟨[98, 102], 1, .CommandName⟩, ⟨[32], 3, .MergedSpacer⟩,
        ⟨[92], 4, .Escape⟩, ⟨[108, 101, 102, 116, 40], 5, .PunctuationCommandName⟩,
        ⟨[92], 10, .Escape⟩]) := by decide +kernel

end TexSoup
