import TexSoupProofs.Reader.HypCheck
import TexSoupProofs.Properties.TokHyp
import TexSoupProofs.Properties.C19
import TexSoupProofs.TokLemmas.SpacerWs
import TexSoupProofs.Properties.TestVectors
/-!
# C08 – Serialisation conserves the characters of any parseable input

Statement of the property: whenever parsing an arbitrary string succeeds, the serialised
result consists of exactly the characters of the input in the same order; the only permitted
difference is the removal of whitespace runs that stand directly before the opening brace or
bracket of an argument group. (Inputs free of NUL/DEL; mandatory arguments of fixed-signature
commands brace-delimited.)

The theorems are about the model (`TexSoupModel/Read.lean`), which the correspondence check
ties to `TexSoup/reader.py`. `Del false ts out` says: `out` is the concatenation of the token
texts of `ts` minus some `MergedSpacer` tokens each directly followed by a `{`/`[` token.
Hypotheses beyond the property's own side conditions are the bundle `Hyp`: its lexical
fields are theorems about the tokenizer (`TokHyp.lean`); `envPlain` excludes the recorded
finding F4b (blank-padded or bracket-delimited environment names), `skipPlain` exotic names
of verbatim-like environments.
-/
namespace TexSoup.C08

/-- Conservation at token level, for every input, every skip list, strict mode. -/
theorem conservation (skip : List Str) (s : Str) (ts : List Tok) (es : List Expr)
    (ht : tokenize s = some ts) (h : parse false skip s = .ok es)
    (hy : Hyp (Tables.skipEnvNames ++ skip) ts) (hnb : noBareL es = true) :
    Del false ts (serL es) :=
  parse_cons false skip s ts es ht h hy hnb

/-- Nothing is invented, duplicated or reordered: the output is a sublist of the token text. -/
theorem output_sublist (skip : List Str) (s : Str) (ts : List Tok) (es : List Expr)
    (ht : tokenize s = some ts) (h : parse false skip s = .ok es)
    (hy : Hyp (Tables.skipEnvNames ++ skip) ts) (hnb : noBareL es = true) :
    (serL es).Sublist (flat ts) :=
  (conservation skip s ts es ht h hy hnb).strict_sublist

/-- If no spacer token stands directly before an opener, nothing at all is removed. -/
theorem output_exact (skip : List Str) (s : Str) (ts : List Tok) (es : List Expr)
    (ht : tokenize s = some ts) (h : parse false skip s = .ok es)
    (hy : Hyp (Tables.skipEnvNames ++ skip) ts) (hnb : noBareL es = true)
    (hsp : noSpacerBeforeOpener ts = true) : serL es = flat ts :=
  (conservation skip s ts es ht h hy hnb).strict_exact hsp

/-- Finding F4b excluded, stated on the tokens: whenever an argument list is read right after
`\begin` / `\end`, its first group is a brace group whose text has no surrounding blanks and
contains no made-up braces. -/
def EnvNamesPlain (ts : List Tok) : Prop :=
  ∀ pre esc n r, ts = pre ++ esc :: n :: r → esc.cat = .Escape → (n.text = sBegin ∨ n.text = sEnd) →
    ∀ g nreq nopt tol mode a0 as rest, readArgs g nreq nopt tol mode r = .ok (a0 :: as, rest) →
      (∃ b p, a0 = .group .brace b p) ∧ strip a0.string = a0.string ∧ noBareA [a0] = true

/-- C08 on strings: for an input free of NUL/DEL that parses strictly, with plain names for
the user's verbatim-like environments, environment names as in `EnvNamesPlain` and no
made-up arguments in the result: the tokens partition the input exactly and the output is
their text minus spacers standing directly before an opener. -/
theorem conservation_string (skip : List Str) (s : Str) (es : List Expr)
    (hs : ∀ c ∈ s, isIgnored (catOf c) = false) (h : parse false skip s = .ok es)
    (hskip : ∀ n, memStr n skip = true → PlainEnvName n)
    (henv : ∀ ts, tokenize s = some ts → EnvNamesPlain ts) (hnb : noBareL es = true) :
    ∃ ts, tokenize s = some ts ∧ flat ts = s ∧ Del false ts (serL es) ∧ (serL es).Sublist s := by
  obtain ⟨ts, ht⟩ := tokenize_total s
  have hy : Hyp (Tables.skipEnvNames ++ skip) ts :=
    lexical_hyp hs ht (skipNames_plain hskip) (henv ts ht)
  have hflat := tokenize_lossless hs ht
  have hd := conservation skip s ts es ht h hy hnb
  exact ⟨ts, ht, hflat, hd, hflat ▸ hd.strict_sublist⟩

/-- What may be removed is whitespace: every `MergedSpacer` token of a tokenizer output
consists of characters with `str.isspace()` (re-checked against the generated category table:
filing a non-blank character such as `~` under `Spacer` breaks this theorem). -/
theorem dropped_tokens_are_whitespace {s : Str} {ts : List Tok} (h : tokenize s = some ts) :
    ∀ t ∈ ts, t.cat = .MergedSpacer → ∀ c ∈ t.text, isSpaceCh c = true :=
  tokens_spacer_whitespace h

/-- The same invariant for every reader function, every fuel, every mode (Core A). -/
theorem reader_invariant (skip0 : List Str) (f : Nat) : ConsAt skip0 f := consAt skip0 f

/-! Non-vacuity: `\a {b}` (a spacer is dropped) satisfies every hypothesis, and the conclusion
is not an equality there. -/

def ex1 : Str := [92, 97, 32, 123, 98, 125]

example : ∃ ts es, tokenize ex1 = some ts ∧ parse false [] ex1 = .ok es ∧
    Hyp (Tables.skipEnvNames ++ []) ts ∧ noBareL es = true ∧ serL es ≠ flat ts := by
  have ht : tokenize ex1 = some [⟨[92], 0, .Escape⟩, ⟨[97], 1, .CommandName⟩,
      ⟨[32], 2, .MergedSpacer⟩, ⟨[123], 3, .GroupBegin⟩, ⟨[98], 4, .Text⟩, ⟨[125], 5, .GroupEnd⟩] := by
    decide +kernel
  exact ⟨_, [.cmd [97] [.group .brace [.text [98] 4] 3] [] 0], ht,
    parse_of_tokens ht (by decide +kernel),
    Hyp.ofChecks (by decide +kernel) (by decide +kernel) (by decide +kernel) (by decide +kernel),
    by decide +kernel, by decide +kernel⟩

end TexSoup.C08
