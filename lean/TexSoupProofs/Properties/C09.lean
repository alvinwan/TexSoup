import TexSoupProofs.Reader.Leaves
import TexSoupProofs.Reader.ArgsFirst
import TexSoupProofs.Reader.ConsTop
import TexSoupProofs.Properties.TestVectors
/-!
# C09 – Arguments attach by the one-line-break rule with exact contents

Proved here (for all token lists): what follows the optional spacer is what gets attached;
each attached group's text is exactly the tokens between its delimiters (conservation of the
argument readers); a bracket outside argument position is a leaf needing no partner; foreign
brackets inside a brace group neither end nor start a group. Which groups a command of a
well-formed document takes, and what detaches a group, is `C09Grammar.lean`
(`command_takes_its_groups`).
-/
namespace TexSoup.C09

/-- A `[` or `]` (or any token that is not `\`, `{` or a math opener) read where an expression
is expected – i.e. not right after a command – is a text leaf; nothing has to match it. -/
theorem bracket_needs_no_partner (f : Nat) (skip : List Str) (tol : Bool) (mode : Mode) (c : Tok)
    (ts : List Tok) (h : c.cat = .BracketBegin ∨ c.cat = .BracketEnd) :
    readExpr (f + 1) skip tol mode (c :: ts) = .ok (.text c.text c.pos, ts) :=
  readExpr_leaf f skip tol mode c ts (bracket_is_leaf c h)

/-- Inside a brace group, closing/opening *brackets* are ordinary leaves: the group ends only
at its own closing brace (and symmetrically for a bracket group and braces-free bodies). -/
theorem group_closes_only_on_own_delimiter (k : GKind) (pos : Int) (tol : Bool) (mode : Mode)
    (b : List Tok) (c : Tok) (rest : List Tok) (x : Nat)
    (hb : ∀ t ∈ b, isLeafTok t = true ∧ (t.cat == k.tokEnd) = false) (hc : (c.cat == k.tokEnd) = true) :
    readArg (b.length + 2 + x) k pos tol mode (b ++ c :: rest) = .ok (.group k (b.map leafOf) pos, rest) :=
  group_of_leaves k pos tol mode b c rest x hb hc

/-- With an open signature the first argument is the group that stands right after the
optional spacer token – nothing else can become the first argument. -/
theorem first_argument_is_next_group {g : Nat} {tol : Bool} {mode : Mode} {r : List Tok} {a0 : Expr}
    {as : List Expr} {rest : List Tok} (h : readArgs g (-1) (-1) tol mode r = .ok (a0 :: as, rest) ) :
    ∃ o r3 k g' ts', (readSpacer r).2 = o :: r3 ∧ gkindOfBegin o.cat = some k ∧
      readArg g' k o.pos tol mode r3 = .ok (a0, ts') :=
  readArgs_first h

/-- Exact contents (`Cons tol`): the argument list serialises to the tokens it consumed, minus
spacer tokens standing directly before an opener and, in tolerant mode only, plus the closers the
reader supplied (every fuel, every signature, every mode). -/
theorem arguments_have_exact_contents (skip0 : List Str) (f : Nat) (nreq nopt : Int) (tol : Bool)
    (mode : Mode) (ts : List Tok) (args : List Expr) (rest : List Tok)
    (h : readArgs f nreq nopt tol mode ts = .ok (args, rest)) (hy : Hyp skip0 ts)
    (hnb : noBareA args = true) : Cons tol ts (serL args) rest :=
  (consAt skip0 f).2.2.2.2.2.2.2.1 _ _ _ _ _ _ _ h hy hnb

/-- The one rule of `Del` that loses a token: a spacer in front of an opener. That a strict run
loses nothing else is `Del.strict_sublist` / `Del.strict_exact`. -/
theorem spacer_dropped_only_before_opener {tol : Bool} {t o : Tok} {ts : List Tok} {out : Str}
    (hs : t.cat = .MergedSpacer) (ho : isOpener o = true) (h : Del tol (o :: ts) out) :
    Del tol (t :: o :: ts) out := Del.drop t o hs ho h

/-! Non-vacuity: `{a]b}` is one brace group with three leaves. -/
example : readArg 5 .brace 0 false .nonMath
    [⟨[97], 1, .Text⟩, ⟨[93], 2, .BracketEnd⟩, ⟨[98], 3, .Text⟩, ⟨[125], 4, .GroupEnd⟩] =
    .ok (.group .brace [.text [97] 1, .text [93] 2, .text [98] 3] 0, []) := by decide +kernel

end TexSoup.C09
