import TexSoupProofs.Reader.NoInternal
import TexSoupProofs.Reader.FuelEnough
import TexSoupProofs.Reader.Classify
import TexSoupProofs.Properties.TestVectors
/-!
# C06 – Parsing is total

For every input string, every skip list and both tolerance settings, parsing terminates with
a tree or with one of the three diagnostic errors (`EOFError`, `TypeError`, `AssertionError`).
It never hangs and never leaks an internal exception (`StopIteration`, `KeyError`,
`IndexError`, ...).

In the model, "hangs" is `Err.fuel` (the fuel bounds the depth of the call chain, and
`parseFuel` is what `parse` supplies) and "leaks an internal exception" is `Err.internal`.
-/
namespace TexSoup.C06

/-- The tokenizer terminates on every input (its fuel always suffices). -/
theorem tokenize_never_hangs (s : Str) : ∃ ts, tokenize s = some ts := tokenize_total s

/-- Every successful `read_expr` consumes at least one token and returns a suffix of its
input: the loops of the reader make progress. -/
theorem reader_progress (f : Nat) (skip : List Str) (tol : Bool) (mode : Mode) (ts : List Tok)
    (e : Expr) (rest : List Tok) (h : readExpr f skip tol mode ts = .ok (e, rest)) :
    (∃ c, c ≠ [] ∧ ts = c ++ rest) ∧ rest.length < ts.length := by
  have hs := readExpr_ssuf h
  refine ⟨?_, hs.length_lt⟩
  obtain ⟨t, c, hc⟩ := hs
  exact ⟨t :: c, List.cons_ne_nil _ _, hc⟩

/-- Every reader function returns a suffix of its input, at every fuel. -/
theorem reader_progress_all (f : Nat) : ProgressAt f := progressAt f

/-- `parse` never leaks an internal exception: the model's `Err.internal` (empty buffer in
`read_expr`, exhausted buffer where a matched `\end` is to be consumed) is unreachable. -/
theorem parse_no_internal (tol : Bool) (skip : List Str) (s : Str) :
    parse tol skip s ≠ .error .internal := TexSoup.parse_no_internal tol skip s

/-- No reader function returns `Err.internal`, at every fuel (`readExpr`: on a non-empty
buffer, which is how all its callers use it). -/
theorem reader_no_internal (f : Nat) : NoInternalAt f := noInternalAt f

/-- `parse` never hangs: `parseFuel ts = 4 * ts.length + 8` always suffices. -/
theorem parse_no_fuel (tol : Bool) (skip : List Str) (s : Str) :
    parse tol skip s ≠ .error .fuel := TexSoup.parse_no_fuel tol skip s

/-- Fuel `3 * (number of tokens)` plus at most 3 (1, 2 or 3, depending on the function) suffices
for every reader function. -/
theorem reader_fuel_enough (f : Nat) : FuelEnoughAt f := fuelEnoughAt f

/-- Parsing is total: the result is a tree or one of the three diagnostic errors. -/
theorem parse_total (tol : Bool) (skip : List Str) (s : Str) :
    (∃ es, parse tol skip s = .ok es) ∨ parse tol skip s = .error .eof ∨
    parse tol skip s = .error .type ∨ parse tol skip s = .error .assertion := by
  cases h : parse tol skip s with
  | ok es => exact .inl ⟨es, rfl⟩
  | error e =>
    cases e with
    | eof => exact .inr (.inl rfl)
    | type => exact .inr (.inr (.inl rfl))
    | assertion => exact .inr (.inr (.inr rfl))
    | internal => exact absurd h (TexSoup.parse_no_internal tol skip s)
    | fuel => exact absurd h (TexSoup.parse_no_fuel tol skip s)

/-- A parse that does not succeed reports one of the three diagnostic errors. -/
theorem error_of_fails {tol : Bool} {skip : List Str} {s : Str} (h : ∀ es, parse tol skip s ≠ .ok es) :
    parse tol skip s = .error .eof ∨ parse tol skip s = .error .type ∨
    parse tol skip s = .error .assertion :=
  (parse_total tol skip s).resolve_left fun ⟨es, he⟩ => h es he

/-- `AssertionError` comes only from `\item` (in math mode) and `\begin` (without argument):
if no escape token is directly followed by a token spelling `item` or `begin`, parsing does
not end in `AssertionError`. -/
theorem assertion_origin (tol : Bool) (skip : List Str) (s : Str) (ts : List Tok)
    (ht : tokenize s = some ts)
    (hy : ∀ pre esc n r, ts = pre ++ esc :: n :: r → esc.cat = TC.Escape →
      n.text ≠ sItem ∧ n.text ≠ sBegin) :
    parse tol skip s ≠ .error .assertion :=
  parse_assertion_origin tol skip s ts ht hy

/-- The same for every reader function at every fuel. -/
theorem reader_assertion_origin (f : Nat) : AssertFreeAt f := assertFreeAt f

/-- In tolerant mode `TypeError` comes only from the contents of an `\item`, which are always
read strictly: if no escape token is directly followed by a token spelling `item`, tolerant
parsing does not end in `TypeError`. -/
theorem type_origin (skip : List Str) (s : Str) (ts : List Tok) (ht : tokenize s = some ts)
    (hy : ∀ pre esc n r, ts = pre ++ esc :: n :: r → esc.cat = TC.Escape → n.text ≠ sItem) :
    parse true skip s ≠ .error .type :=
  parse_type_origin skip s ts ht hy

/-- In particular when no token at all spells `item`. -/
theorem type_origin' (skip : List Str) (s : Str) (ts : List Tok) (ht : tokenize s = some ts)
    (hy : ∀ t ∈ ts, t.text ≠ sItem) : parse true skip s ≠ .error .type :=
  parse_type_origin skip s ts ht (EscNext.of_forall hy)

/-- The same for every reader function with `tol = true` (except `readItem`, which is never
called) at every fuel. -/
theorem reader_type_origin (f : Nat) : TypeFreeAt f := typeFreeAt f

/-- `EOFError` comes only from math regions and environments: if no token opens a math region
(`$`, `$$`, `\(`, `\[`) and no escape token is directly followed by a token spelling `begin`,
parsing does not end in `EOFError`. -/
theorem eof_origin (tol : Bool) (skip : List Str) (s : Str) (ts : List Tok)
    (ht : tokenize s = some ts) (hm : ∀ t ∈ ts, mkindOfBegin t.cat = none)
    (hb : ∀ pre esc n r, ts = pre ++ esc :: n :: r → esc.cat = TC.Escape → n.text ≠ sBegin) :
    parse tol skip s ≠ .error .eof :=
  parse_eof_origin tol skip s ts ht ⟨hm, hb⟩

/-- The same for the reader functions that can be reached under this hypothesis, at every
fuel. -/
theorem reader_eof_origin (f : Nat) : EofFreeAt f := eofFreeAt f

/-! ## Non-vacuity: each of the four outcomes occurs, and the hypotheses of the
classification theorems cannot be dropped -/

/-- a tree: `\a{b}` -/
example : parse false [] [92, 97, 123, 98, 125] =
    .ok [.cmd [97] [.group .brace [.text [98] 3] 2] [] 0] := Vec.cmd_group
/-- `EOFError`: `$` (strict and tolerant), `\begin{a}` (strict) -/
example : parse false [] [36] = .error .eof := by decide +kernel
example : parse true [] [36] = .error .eof := by decide +kernel
example : parse false [] [92, 98, 101, 103, 105, 110, 123, 97, 125] = .error .eof := by decide +kernel
/-- `TypeError`: `{a` (strict) -/
example : parse false [] [123, 97] = .error .type := Vec.open_brace_strict
/-- `TypeError` in tolerant mode needs `\item`: `\item a{` fails, `a{` does not -/
example : parse true [] [92, 105, 116, 101, 109, 32, 97, 123] = .error .type := by decide +kernel
example : parse true [] [97, 123] = .ok [.text [97] 0, .group .brace [] 1] := by decide +kernel
/-- `AssertionError`: `\begin` and `$\item$` -/
example : parse false [] [92, 98, 101, 103, 105, 110] = .error .assertion := by decide +kernel
example : parse false [] [36, 92, 105, 116, 101, 109, 36] = .error .assertion := by decide +kernel
/-- the hypothesis of `assertion_origin`/`type_origin`/`eof_origin` holds for `\a{b}` -/
example : ∃ ts, tokenize [92, 97, 123, 98, 125] = some ts ∧ NoItemBegin ts ∧ NoItem ts ∧
    NoEofSource ts :=
  ⟨_, Vec.cmd_group_tokens, .of_forall (by decide +kernel), .of_forall (by decide +kernel),
    by decide +kernel, .of_forall (by decide +kernel)⟩

end TexSoup.C06
