import TexSoupProofs.SearchLemmas
import TexSoupProofs.Properties.TestVectors
/-!
# C03 - Search returns exactly the matching nodes

"Searching a parsed document by name returns exactly the commands and environments of that
name that occur in the tree's environment bodies, list items, math regions, brace groups and
argument groups - each once, none missing, none spurious. `find` is the first element of
`find_all` or None, `count` is its length, attribute access (soup.name) equals `find`, a list
of names matches the union, an absent name matches nothing, and a full-expression query such
as `\ref{x}` or `\begin{equation}` matches exactly the nodes whose text (resp. opening) equals
it."

All theorems hold for every tree and every search root. A search at the document root is
`findAllRoot q es = findAll q (rootWrap es)` (`findAll_root`). "By name" means a query that
`__match__` treats as a name: `plainName` (no `{`, no `[`, and not one of `]` `}` `\]` `\(`
`\)`, which `TexEnv.__match__` accepts as delimiters); `plainName_necessary` shows that this
condition cannot be weakened. Paths need `Expr.flatArgs` (see C04).

Where the code does more than the property text says (`findAll_fullexpr`): a query with `{`
or `[` also matches an environment by its closing delimiter (`\end{equation}`), by
`\begin{name}` followed by its arguments, and a brace/bracket group by its opening delimiter
(`{`, `[`).
-/
namespace TexSoup.C03
open TexSoup

/-- `\begin{i}[ \b]⏎\it A$B${\b}\end{i}` -/
def sample : Expr :=
  .nenv [105] [.group .bracket [.text [32] 10, .cmd [98] [] [] 11] 9]
    [.text [10] 14,
     .cmd [105, 116] [] [.text [65] 18, .math .dollar [.text [66] 20] 19] 15,
     .group .brace [.cmd [98] [] [] 23] 22] 0

/-- `find_all` filters `descendants` with `__match__` (text has none). -/
theorem findAll_spec (q : Query) (e : Expr) :
    findAll q e = (descOf e).filter (fun x => !x.isText && matchesQ q x) := rfl

theorem findAll_root (q : Query) (es : List Expr) : findAllRoot q es = findAll q (rootWrap es) := by
  rw [findAllRoot, findAll, descRoot_eq_wrap]

/-- For a plain name, `__match__` of a command or environment compares names. -/
theorem match_plain {n : Str} (hn : plainName n = true) (x : Expr) :
    matchesQ (.name n) x = (x.name == n) := matchesQ_plain hn x

/-- The side condition is exact: for any other query string some command or environment is
matched although its name differs, or not matched although its name is equal. -/
theorem plainName_necessary {n : Str} (hn : plainName n = false) :
    ∃ x : Expr, x.isText = false ∧ matchesQ (.name n) x ≠ (x.name == n) := by
  by_cases h1 : n.contains 123 = true ∨ n.contains 91 = true
  · refine ⟨.cmd n [] [] 0, rfl, ?_⟩
    have hc : (n.contains 123 || n.contains 91) = true := by simpa using h1
    have hlen : (ser (.cmd n [] [] 0) == n) = false := by
      cases h : ser (.cmd n [] [] 0) == n with
      | false => rfl
      | true =>
        have := congrArg List.length (eq_of_beq h)
        simp [ser, serL] at this
    simp only [matchesQ, hc, hlen, Expr.isEnv, Expr.name, Bool.false_and, Bool.false_or,
      ↓reduceIte, beq_self_eq_true]
    decide
  · have h123 : n.contains 123 = false := by
      cases h : n.contains 123 with
      | false => rfl
      | true => exact absurd (Or.inl h) h1
    have h91 : n.contains 91 = false := by
      cases h : n.contains 91 with
      | false => rfl
      | true => exact absurd (Or.inr h) h1
    have hd : n ∈ envDelims := by
      unfold plainName at hn
      rw [h123, h91] at hn
      simpa using hn
    simp only [envDelims, List.mem_cons, List.not_mem_nil, or_false] at hd
    rcases hd with rfl | rfl | rfl | rfl | rfl
    · exact ⟨.group .bracket [] 0, rfl, by decide⟩
    · exact ⟨.group .brace [] 0, rfl, by decide⟩
    · exact ⟨.math .displaymath [] 0, rfl, by decide⟩
    · exact ⟨.math .math [] 0, rfl, by decide⟩
    · exact ⟨.math .math [] 0, rfl, by decide⟩

/-- `occ n e` (a structural pre-order enumeration over argument contents and bodies) lists
exactly the commands and environments named `n` at the non-empty paths below `e`. -/
theorem occ_spec (n : Str) (e : Expr) (p : Path) (x : Expr) :
    (p, x) ∈ occ n e ↔ p ≠ [] ∧ getAt e p = some x ∧ x.isText = false ∧ x.name = n := by
  rw [occ_eq_filter, List.mem_filter, mem_closureP_iff]
  simp only [Expr.named, Bool.and_eq_true, Bool.not_eq_true', beq_iff_eq]
  constructor
  · rintro ⟨⟨h1, h2, _⟩, h4, h5⟩
    exact ⟨h1, h2, h4, h5⟩
  · rintro ⟨h1, h2, h4, h5⟩
    exact ⟨⟨h1, h2, isBlankText_of_not_isText h4⟩, h4, h5⟩

/-- Searching by name returns exactly the occurrences of the name - each once (the paths are
distinct), none missing, none spurious (a permutation of `occ`, which by `occ_spec` is
complete and sound). -/
theorem findAll_name_occ {n : Str} (hn : plainName n = true) {e : Expr} (he : e.flatArgs = true) :
    (findAll (.name n) e).Perm ((occ n e).map Prod.snd) ∧ ((occ n e).map Prod.fst).Nodup :=
  ⟨findAll_perm_occ hn he, occ_nodup n e⟩

theorem findAll_name_occ_root {n : Str} (hn : plainName n = true) {es : List Expr}
    (he : flatArgsL es = true) :
    (findAllRoot (.name n) es).Perm ((occRoot n es).map Prod.snd) ∧
      ((occRoot n es).map Prod.fst).Nodup := by
  rw [findAll_root]
  exact findAll_name_occ hn (by rw [flatArgs_rootWrap]; exact he)

/-- The order of the results is the order of `descendants`; each result with its path. -/
theorem findAll_name_order {n : Str} (hn : plainName n = true) {e : Expr} (he : e.flatArgs = true) :
    findAll (.name n) e = ((descP [] e).filter (fun px => px.2.named n)).map Prod.snd :=
  findAll_plain_paths hn he

/-- without paths (no condition on the tree) -/
theorem findAll_name_filter {n : Str} (hn : plainName n = true) (e : Expr) :
    findAll (.name n) e = (descOf e).filter (fun x => !x.isText && x.name == n) :=
  findAll_plain hn e

example : plainName [98] = true := by decide
example : findAll (.name [98]) sample = [.cmd [98] [] [] 11, .cmd [98] [] [] 23] := by decide +kernel
example : occ [98] sample = [([.arg 0 1], .cmd [98] [] [] 11), ([.body 2, .body 0], .cmd [98] [] [] 23)] :=
  rfl
example : findAll (.name [36]) sample = [.math .dollar [.text [66] 20] 19] := by decide +kernel

/-- `find` is the first element of `find_all`, or `None`. -/
theorem find_eq_head (q : Query) (e : Expr) : find q e = (findAll q e).head? := rfl

/-- `count` is the length of `find_all`. -/
theorem count_eq_length (q : Query) (e : Expr) : count q e = (findAll q e).length := rfl

/-- `soup.name` (`__getattr__`: `self.find(attr) or None`) is `find`. -/
theorem getattr_eq_find (n : Str) (e : Expr) : getattrOf n e = find (.name n) e := by
  unfold getattrOf
  cases find (.name n) e <;> rfl

example : find (.name [98]) sample = some (.cmd [98] [] [] 11) := by decide +kernel
example : count (.name [98]) sample = 2 := by decide +kernel
example : find (.name [99]) sample = none := by decide +kernel

/-- A list of names matches the union. -/
theorem findAll_names_union {l : List Str} (hl : ∀ n ∈ l, plainName n = true) (e x : Expr) :
    x ∈ findAll (.names l) e ↔ ∃ n ∈ l, x ∈ findAll (.name n) e := by
  rw [findAll_names hl, List.mem_filter]
  constructor
  · rintro ⟨hx, hm⟩
    simp only [Bool.and_eq_true, Bool.not_eq_true', List.contains_eq_mem, decide_eq_true_eq] at hm
    refine ⟨x.name, hm.2, ?_⟩
    rw [findAll_plain (hl _ hm.2), List.mem_filter]
    exact ⟨hx, by simp [Expr.named, hm.1]⟩
  · rintro ⟨n, hn, hx⟩
    rw [findAll_plain (hl _ hn), List.mem_filter] at hx
    refine ⟨hx.1, ?_⟩
    simp only [Expr.named, Bool.and_eq_true, Bool.not_eq_true', beq_iff_eq] at hx
    simp [hx.2.1, hx.2.2, hn]

/-- ... in the order of `descendants`. -/
theorem findAll_names_order {l : List Str} (hl : ∀ n ∈ l, plainName n = true) (e : Expr) :
    findAll (.names l) e = (descOf e).filter (fun x => !x.isText && l.contains x.name) :=
  findAll_names hl e

example : findAll (.names [[98], [36]]) sample =
    [.cmd [98] [] [] 11, .math .dollar [.text [66] 20] 19, .cmd [98] [] [] 23] := by decide +kernel

/-- An absent name matches nothing. -/
theorem findAll_absent {n : Str} (hn : plainName n = true) {e : Expr} (he : e.flatArgs = true)
    (h : ∀ p x, p ≠ [] → getAt e p = some x → x.isText = false → x.name ≠ n) :
    findAll (.name n) e = [] := by
  have hperm := findAll_perm_occ hn he
  cases hocc : occ n e with
  | nil => rw [hocc] at hperm; simpa using hperm
  | cons px l =>
    have hm : (px.1, px.2) ∈ occ n e := by rw [hocc]; simp
    obtain ⟨h1, h2, h3, h4⟩ := (occ_spec n e _ _).1 hm
    exact absurd h4 (h _ _ h1 h2 h3)

/-- without paths: no descendant carries the name (no condition on the tree) -/
theorem findAll_absent' {n : Str} (hn : plainName n = true) (e : Expr)
    (h : ∀ x ∈ descOf e, x.isText = false → x.name ≠ n) : findAll (.name n) e = [] := by
  rw [findAll_name_filter hn, List.filter_eq_nil_iff]
  intro x hx
  cases ht : x.isText with
  | true => simp
  | false => simpa [ht] using h x hx ht

example : findAll (.name [99]) sample = [] := by decide +kernel

/-- A query containing `{` or `[` matches exactly the commands and environments whose text
equals it, and the environments whose `\begin{name}` + arguments, `\begin{name}`, closing
delimiter or name equals it. -/
theorem findAll_fullexpr {s : Str} (hs : s.contains 123 = true ∨ s.contains 91 = true)
    (e x : Expr) :
    x ∈ findAll (.name s) e ↔ x ∈ descOf e ∧ x.isText = false ∧
      (ser x = s ∨ (x.isEnv = true ∧
        (s = x.beginStr ++ serL x.args ∨ s = x.beginStr ∨ s = x.endStr ∨ s = x.name))) := by
  have hc : (s.contains 123 || s.contains 91) = true := by simpa using hs
  rw [findAll_spec, List.mem_filter]
  simp only [matchesQ, hc, if_true, Bool.and_eq_true, Bool.not_eq_true', Bool.or_eq_true,
    beq_iff_eq]
  refine and_congr_right fun _ => and_congr_right fun _ => ?_
  constructor
  · rintro (⟨h3, ((h4 | h4) | h4) | h4⟩ | h3)
    · exact Or.inr ⟨h3, Or.inr (Or.inr (Or.inr h4))⟩
    · exact Or.inr ⟨h3, Or.inl h4⟩
    · exact Or.inr ⟨h3, Or.inr (Or.inl h4)⟩
    · exact Or.inr ⟨h3, Or.inr (Or.inr (Or.inl h4))⟩
    · exact Or.inl h3
  · rintro (h3 | ⟨h3, h4 | h4 | h4 | h4⟩)
    · exact Or.inr h3
    · exact Or.inl ⟨h3, Or.inl (Or.inl (Or.inr h4))⟩
    · exact Or.inl ⟨h3, Or.inl (Or.inr h4)⟩
    · exact Or.inl ⟨h3, Or.inr h4⟩
    · exact Or.inl ⟨h3, Or.inl (Or.inl (Or.inl h4))⟩

/-- For a command (`\ref{x}`) only the text counts. -/
theorem findAll_fullexpr_cmd {s : Str} (hs : s.contains 123 = true ∨ s.contains 91 = true)
    (e : Expr) (n : Str) (a b : List Expr) (p : Int) :
    .cmd n a b p ∈ findAll (.name s) e ↔ .cmd n a b p ∈ descOf e ∧ ser (.cmd n a b p) = s := by
  rw [findAll_fullexpr hs]
  simp [Expr.isText, Expr.isEnv]

/-- `\begin{i}`, `\end{i}`, `{\b}`, `{` as queries -/
example : findAll (.name [92, 98, 101, 103, 105, 110, 123, 105, 125]) (.group .brace [sample] 0)
    = [sample] := by decide +kernel
example : findAll (.name [92, 101, 110, 100, 123, 105, 125]) (.group .brace [sample] 0)
    = [sample] := by decide +kernel
example : findAll (.name [123, 92, 98, 125]) sample = [.group .brace [.cmd [98] [] [] 23] 22] := by decide +kernel
example : findAll (.name [123]) sample = [.group .brace [.cmd [98] [] [] 23] 22] := by decide +kernel

end TexSoup.C03
