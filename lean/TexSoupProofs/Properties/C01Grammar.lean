import TexSoupProofs.Properties.C16Grammar
/-!
# C01 for documents of the grammar, in the words of the property

"For every well-formed LaTeX document in which each argument group immediately follows its
command or the previous argument, parsing succeeds and converting the tree back to text yields
the source exactly, character for character."

 * well-formed: `WFD` (the grammar of documented constructs, `TexSoupModel/Grammar.lean`);
 * its tokens are what the tokenizer makes of its text: `Separated` / `Positioned` (equivalently
   `tokenize (flat (toksD d)) = some (toksD d)`, `tokenize_iff`);
 * "each argument group immediately follows": no optional spacer token is written in front of an
   argument group or of the `{name}` of `\begin`/`\end` – `squeezeD d = d`;
 * environment names are written without surrounding blanks (`envNamesPlainS`; the recorded
   finding F4b: `\begin{ a }` is read as environment `a` and printed `\begin{a}`).

No further side condition (no hypothesis about NUL/DEL, made-up arguments or the token stream)
remains: they follow from well-formedness. Both tolerance modes.
-/
namespace TexSoup.C01G
open TexSoup TexSoup.Gram

/-- lossless round trip of well-formed documents with adjacent argument groups -/
theorem document_roundtrip (tol : Bool) (skip : List Str) (d : Doc)
    (hwf : WFD (Tables.skipEnvNames ++ skip) d = true) (hen : envNamesPlainS d = true)
    (hadj : squeezeD d = d) (hsep : Separated none (toksD d)) (hpos : Positioned 0 (toksD d)) :
    parse tol skip (flat (toksD d)) = .ok (treeD d) ∧ serL (treeD d) = flat (toksD d) := by
  have hs := serL_treeD d (canonD_of_separated hwf hsep hen)
  rw [hadj] at hs
  exact ⟨C02.document_parses tol skip d hwf hsep hpos, hs⟩

/-- … stated on the source string: if the string is the text of such a document, parsing it and
printing the tree gives the string back. -/
theorem source_roundtrip (tol : Bool) (skip : List Str) (s : Str) (d : Doc) (hs : s = flat (toksD d))
    (hwf : WFD (Tables.skipEnvNames ++ skip) d = true) (hen : envNamesPlainS d = true)
    (hadj : squeezeD d = d) (hsep : Separated none (toksD d)) (hpos : Positioned 0 (toksD d)) :
    ∃ es, parse tol skip s = .ok es ∧ serL es = s := by
  subst hs
  exact ⟨treeD d, document_roundtrip tol skip d hwf hen hadj hsep hpos⟩

/-- When spacers ARE written in front of argument groups the output is the source minus exactly
those spacers (the permitted difference of C08, and why C01 asks for adjacency). -/
theorem document_roundtrip_spaced (tol : Bool) (skip : List Str) (d : Doc)
    (hwf : WFD (Tables.skipEnvNames ++ skip) d = true) (hen : envNamesPlainS d = true)
    (hsep : Separated none (toksD d)) (hpos : Positioned 0 (toksD d)) :
    parse tol skip (flat (toksD d)) = .ok (treeD d) ∧ serL (treeD d) = flat (toksD (squeezeD d)) :=
  ⟨C02.document_parses tol skip d hwf hsep hpos, serL_treeD d (canonD_of_separated hwf hsep hen)⟩

/-! ## Non-vacuity: `\foo[a]{b}x` (adjacent) and the spaced `\foo [a] {b}x` of C16G -/

private def t (s : Str) (p : Nat) (c : TC) : Tok := ⟨s, p, c⟩

def exAdjacent : Doc :=
  [.cmd (t [92] 0 .Escape) (t [102, 111, 111] 1 .CommandName)
     [.mk none (t [91] 4 .BracketBegin) [.leaf (t [97] 5 .Text)] (t [93] 6 .BracketEnd)]
     [.mk none (t [123] 7 .GroupBegin) [.leaf (t [98] 8 .Text)] (t [125] 9 .GroupEnd)]
     [] [],
   .leaf (t [120] 10 .Text)]

example : flat (toksD exAdjacent) = [92, 102, 111, 111, 91, 97, 93, 123, 98, 125, 120] := by decide +kernel

example : parse false [] [92, 102, 111, 111, 91, 97, 93, 123, 98, 125, 120] = .ok (treeD exAdjacent) ∧
    serL (treeD exAdjacent) = [92, 102, 111, 111, 91, 97, 93, 123, 98, 125, 120] :=
  document_roundtrip false [] exAdjacent (by decide +kernel) (by decide +kernel) rfl (by decide +kernel)
    (by decide +kernel)

/-- the adjacency hypothesis cannot be dropped: the spaced document of C16G prints without its blanks -/
example : squeezeD C16G.exSpaced ≠ C16G.exSpaced ∧
    serL (treeD C16G.exSpaced) ≠ flat (toksD C16G.exSpaced) :=
  ⟨fun h => absurd (congrArg (fun d => flat (toksD d)) h) (by decide +kernel), by decide +kernel⟩

end TexSoup.C01G
