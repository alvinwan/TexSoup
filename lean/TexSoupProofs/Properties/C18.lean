import TexSoupModel.Args
import TexSoupProofs.ArgsSpec
import TexSoupProofs.ArgsLemmas
/-!
# C18 – argument lists behave like Python lists of groups

Model: `TexSoupModel/Args.lean` (`Args.step`, the class as it is, `.all` and object
identities included). Specification: `TexSoupProofs/ArgsSpec.lean` (`specStep` on a bare list
of objects plus the allocation counter). Abstraction `abs st = (st.lst, st.next)`; invariant
`Inv`: only group/command objects in the list, and `.all` contains every list element *as an
object*, counted with multiplicity.

Defects of the earlier code (the `Legacy` namespaces keep the old code and the witnesses):
* `insert` with a negative or too large index raised after inserting
  (`Legacy.insert_breaks_list_semantics`);
* `pop` returned the first *textual twin* kept in `.all`, not the list item
  (`Legacy.pop_returns_textual_twin`);
* `.all` was kept in step by text: twins ended up in the wrong place
  (`Legacy2.insert_misplaced_twin`) and `remove(x)` of something that is in `.all` but not in
  the list deleted it from `.all` before raising (`Legacy2.remove_mutated_all_before_raising`).
With the current code every output is exactly the list's (`step_refines`) and a failed
operation changes neither the list nor `.all` (`failed_ops_keep_state`); only a failing
`extend` keeps the items before the offending one, as a Python loop does
(`extend_failure_keeps_prefix`).
-/
namespace TexSoup
namespace C18
open ArgsSpec ArgsLemmas ArgsLemmas.Examples

/-- **One step refines the list.** For every state satisfying the invariant and *every*
operation with *every* integer index/bound: the class returns exactly what the list returns
(a returned item is the list's own item – the same object, not merely an equal text), the
new list is the list's new value (`abs` commutes), and the invariant is preserved. A
returned slice is the sliced list and itself a well-formed `TexArgs`. -/
theorem step_refines (st : ArgsSt) (op : ArgsOp) (h : Inv st) :
    abs (Args.step st op).1 = (specStep (abs st) op).1 ∧
    Inv (Args.step st op).1 ∧
    OutRel SameObj (Args.step st op).2 (specStep (abs st) op).2 := by
  have := step_char st op h
  exact ⟨this.1, this.2.1, this.2.2.1⟩
example : Inv (ArgsSt.empty 0) := inv_empty 0
example : (Args.step stAB (.insert (-7) (.str sY))).1.lst = [⟨.made 2, eY⟩, gA, gB] ∧
    (specStep (abs stAB) (.insert (-7) (.str sY))).1 = ([⟨.made 2, eY⟩, gA, gB], 3) := ⟨rfl, rfl⟩

/-- **Returned items are the list's own items, for every operation**: the output component
of `step_refines` on its own. -/
theorem step_output_exact (st : ArgsSt) (op : ArgsOp) (h : Inv st) :
    OutRel SameObj (Args.step st op).2 (specStep (abs st) op).2 :=
  (step_refines st op h).2.2
example : (Args.step stAB (.getItem (-1))).2 = .item (.grp gB) ∧
    (Args.step stAB (.pop 0)).2 = .item (.grp gA) := ⟨rfl, rfl⟩

/-- **`pop` on the witness of the former deviation**: with two textually equal groups that
are different objects (source positions 3 and 7), `pop(1)` returns the item at index 1
(position 7), as `list.pop` does, and it is that object which leaves `.all`. -/
theorem pop_returns_list_item_on_witness :
    let g3 : Obj := ⟨.ext 3, .group .brace [.text [97] (-1)] 3⟩
    let g7 : Obj := ⟨.ext 7, .group .brace [.text [97] (-1)] 7⟩
    let st := (Args.construct [.grp g3, .grp g7]).1
    st = ⟨[g3, g7], [.grp g3, .grp g7], 0⟩ ∧
    Args.step st (.pop 1) = (⟨[g3], [.grp g3], 0⟩, .item (.grp g7)) ∧
    specStep (abs st) (.pop 1) = (([g3], 0), .item g7) :=
  ⟨rfl, rfl, rfl⟩

/-- **Histories.** From any state satisfying the invariant (in particular the empty
`TexArgs()`), every finite sequence of operations yields pointwise identical outputs, the
same final list, and a final state satisfying the invariant. -/
theorem run_refines (st : ArgsSt) (ops : List ArgsOp) (h : Inv st) :
    abs (Args.run st ops).1 = (specRun (abs st) ops).1 ∧
    Inv (Args.run st ops).1 ∧
    OutsRel SameObj (Args.run st ops).2 (specRun (abs st) ops).2 := by
  induction ops generalizing st with
  | nil => exact ⟨rfl, h, trivial⟩
  | cons op ops ih =>
    have hs := step_refines st op h
    have hr := ih (Args.step st op).1 hs.2.1
    simp only [Args.run, specRun]
    rw [← hs.1]
    exact ⟨hr.1, hr.2.1, hs.2.2, hr.2.2⟩
example : (Args.run (.empty 0) [.append (.str sA), .insert 5 (.str sB), .remove (.str sA), .pop (-1)]).2
    = [.none, .none, .none, .item (.grp gB)] := rfl

/-- **`.all` holds every list element as an object** (new with the identity-based
book-keeping): after any history from `TexArgs()`, every object is in `.all` at least as often
as it is in the list – in particular every list element is found in `.all` by `is`. Texts play
no part. -/
theorem all_holds_every_list_object (n : Nat) (ops : List ArgsOp) :
    let st := (Args.run (.empty n) ops).1
    (∀ id : Oid, st.lst.countP (fun o => o.id == id) ≤ st.all.countP (ArgItem.isObj id)) ∧
    (∀ o ∈ st.lst, ∃ it ∈ st.all, it.isObj o.id = true) := by
  intro st
  have hinv : Inv st := (run_refines (.empty n) ops (inv_empty n)).2.1
  refine ⟨hinv.objs, fun o ho => ?_⟩
  rcases List.countP_pos_iff.mp (obj_in_all hinv ho) with ⟨it, hit, hp⟩
  exact ⟨it, hit, hp⟩
example : (Args.run (.empty 0) [.append (.str sA), .append (.str sA), .append (.str [91, 98, 93])]).1.all
    = [.grp ⟨.made 0, eA⟩, .grp ⟨.made 1, eA⟩, .grp ⟨.made 2, .group .bracket [.text [98] (-1)] (-1)⟩] :=
  rfl

/-- **The invariant survives an in-place edit of an argument's contents.** If some object
gets a new value (still a group or command) wherever it is referenced, the state still
satisfies the invariant – so `step_refines` keeps applying afterwards: the book-keeping
never relies on the text an argument had when it was inserted. -/
theorem inv_survives_content_edit (st : ArgsSt) (id : Oid) (e' : Expr) (h : Inv st)
    (he : isArgObj e' = true) : Inv (Args.editObj st id e') := by
  constructor
  · intro o ho
    simp only [Args.editObj, List.mem_map] at ho
    rcases ho with ⟨x, hx, rfl⟩
    unfold Args.editObjOf
    split
    · exact he
    · exact h.args x hx
  · intro i
    have h1 : ∀ o : Obj, ((Args.editObjOf id e' o).id == i) = (o.id == i) := by
      intro o; unfold Args.editObjOf; split <;> rfl
    have e1 : ((fun o : Obj => o.id == i) ∘ Args.editObjOf id e') = fun o : Obj => o.id == i :=
      funext h1
    have e2 : (ArgItem.isObj i ∘ Args.editItemOf id e') = ArgItem.isObj i := by
      funext it
      cases it with
      | ws s => rfl
      | grp o => exact h1 o
    simp only [Args.editObj, List.countP_map, e1, e2]
    exact h.objs i
-- TexArgs(['{a}','{a}']); the second group is edited to '{b}'; pop(1) still returns it and
-- removes *it* from `.all`
example : Args.step (Args.editObj (Args.construct [.str sA, .str sA]).1 (.made 1) eB) (.pop 1)
    = (⟨[⟨.made 0, eA⟩], [.grp ⟨.made 0, eA⟩], 2⟩, .item (.grp ⟨.made 1, eB⟩)) := rfl

/-- **Extending by an argument list (a `TexArgs` object, not a plain Python list) is list
concatenation.** `a.extend(b)` for the argument list `b` of another command, and
`a.extend(a[lo:hi])` for a slice of `a` itself, never raise, append the *list* elements of the
source in list order – the same objects –, leave the source alone and keep the invariant.
The source's shadow list `.all` (whose order need not be the list order) plays no part. -/
theorem extend_by_args_refines (a b : ArgsSt) (ha : Inv a) (hb : Inv b) (lo hi : Option Int) :
    (∃ a', Args.stepPair ⟨a, b⟩ (.extendBy false) = (⟨a', b⟩, .none) ∧
      a'.lst = a.lst ++ b.lst ∧ Inv a') ∧
    (∃ a', Args.step a (.extendSlice lo hi) = (a', .none) ∧
      a'.lst = a.lst ++ specSlice a.lst lo hi ∧ Inv a') := by
  constructor
  · obtain ⟨a', h1, h2, h3⟩ := extendBy_char a b ha hb
    exact ⟨a', by simp only [Args.stepPair, h1], congrArg Prod.fst h2, h3⟩
  · obtain ⟨a', h1, h2, h3⟩ :=
      extend_args a _ ha (fun o ho => ha.args o (specSlice_sub a.lst lo hi o ho))
    exact ⟨a', by rw [Args.step, extendSlice_eq a lo hi ha, h1], congrArg Prod.fst h2, h3⟩
-- other = TexArgs(['{a}']) then insert(0, '[b]'): its `.all` is {a},[b], its list [b],{a};
-- target.extend(other) receives [b],{a}
example :
    let oth := (Args.run (.empty 0) [.append (.str sA), .insert 0 (.str [91, 98, 93])]).1
    oth.all.map ArgItem.txt = [sA, [91, 98, 93]] ∧
    (Args.stepPair ⟨.empty 0, oth⟩ (.extendBy false)).1.tgt.lst.map (fun o => ser o.e)
      = [[91, 98, 93], sA] := ⟨rfl, rfl⟩
example : (Args.step stAB (.extendSlice (some (-1)) none)).1.lst = [gA, gB, gB] := rfl

/-- **Extending an argument list by itself doubles it**, as `l.extend(l)` does for a Python
list: no exception, `a.lst ++ a.lst` (the same objects again), invariant kept – and it is the
same as extending by the full slice `a[:]`. (Before the repair "TexArgs.extend(itself) never
terminated" the implementation looped over the list it was growing; a regression shows up in
the correspondence run as a hang.) -/
theorem extend_by_self_refines (a : ArgsSt) (ha : Inv a) :
    (∃ a', Args.step a .extendSelf = (a', .none) ∧ a'.lst = a.lst ++ a.lst ∧ Inv a') ∧
    Args.step a .extendSelf = Args.step a (.extendSlice none none) := by
  obtain ⟨a', h1, h2, h3⟩ := extend_args a a.lst ha ha.args
  refine ⟨⟨a', h1, congrArg Prod.fst h2, h3⟩, ?_⟩
  rw [Args.step, Args.step, extendSlice_eq a none none ha]
  exact congrArg (fun l => Args.extend a (l.map .grp))
    (List.drop_zero.symm.trans List.take_length.symm)
example : (Args.step stAB .extendSelf).1.lst = [gA, gB, gA, gB] := rfl

/-- **One step of a history over two argument lists refines two Python lists**: operations on
either list (`step_refines`) and extending either by the other. -/
theorem stepPair_refines (s : Args.PairSt) (op : Args.PairOp) (h : InvPair s) :
    absPair (Args.stepPair s op).1 = (specStepPair (absPair s) op).1 ∧
    InvPair (Args.stepPair s op).1 ∧
    OutRel SameObj (Args.stepPair s op).2 (specStepPair (absPair s) op).2 := by
  rcases h with ⟨ht, ho⟩
  cases op with
  | on other op =>
    cases other with
    | false =>
      have := step_refines (Args.syncNext s.tgt s.oth) op (inv_next ht _)
      exact ⟨congrArg (·, abs s.oth) this.1, ⟨this.2.1, ho⟩, this.2.2⟩
    | true =>
      have := step_refines (Args.syncNext s.oth s.tgt) op (inv_next ho _)
      exact ⟨congrArg (abs s.tgt, ·) this.1, ⟨ht, this.2.1⟩, this.2.2⟩
  | extendBy other =>
    cases other with
    | false =>
      obtain ⟨a', h1, h2, h3⟩ := extendBy_char s.tgt s.oth ht ho
      simp only [Args.stepPair, h1]
      exact ⟨congrArg (·, abs s.oth) h2, ⟨h3, ho⟩, trivial⟩
    | true =>
      obtain ⟨a', h1, h2, h3⟩ := extendBy_char s.oth s.tgt ho ht
      simp only [Args.stepPair, h1]
      exact ⟨congrArg (abs s.tgt, ·) h2, ⟨ht, h3⟩, trivial⟩
example : InvPair ⟨.empty 0, .empty 0⟩ := ⟨inv_empty 0, inv_empty 0⟩

/-- **Histories over two argument lists.** -/
theorem runPair_refines (s : Args.PairSt) (ops : List Args.PairOp) (h : InvPair s) :
    absPair (Args.runPair s ops).1 = (specRunPair (absPair s) ops).1 ∧
    InvPair (Args.runPair s ops).1 ∧
    OutsRel SameObj (Args.runPair s ops).2 (specRunPair (absPair s) ops).2 := by
  induction ops generalizing s with
  | nil => exact ⟨rfl, h, trivial⟩
  | cons op ops ih =>
    have hs := stepPair_refines s op h
    have hr := ih (Args.stepPair s op).1 hs.2.1
    simp only [Args.runPair, specRunPair]
    rw [← hs.1]
    exact ⟨hr.1, hr.2.1, hs.2.2, hr.2.2⟩
-- \src: a:{a}, i:0:[b];  \dst: a:{a};  dst.extend(src)  ->  {a}[b]{a}
example : ((Args.runPair ⟨.empty 0, .empty 0⟩
      [.on true (.append (.str sA)), .on true (.insert 0 (.str [91, 98, 93])),
       .on false (.append (.str sA)), .extendBy false]).1.tgt.lst.map fun o => ser o.e)
    = [sA, [91, 98, 93], sA] := rfl

/-- **The pool of the property is closed.** If everything stored is a group made from a
string (`TexGroup.parse`, position `-1`) or a blank string, and the operation brings in only
such values, then besides `step_refines` the state stays in that pool. -/
theorem step_refines_plain (st : ArgsSt) (op : ArgsOp) (h : Inv st) (hp : PlainSt st)
    (hop : PlainOp op) :
    abs (Args.step st op).1 = (specStep (abs st) op).1 ∧
    Inv (Args.step st op).1 ∧ PlainSt (Args.step st op).1 ∧
    OutRel SameObj (Args.step st op).2 (specStep (abs st) op).2 := by
  have := step_refines st op h
  exact ⟨this.1, this.2.1, (step_char st op h).2.2.2.2 hp hop, this.2.2⟩
example : PlainSt (ArgsSt.empty 0) := ⟨by simp [ArgsSt.empty], by simp [ArgsSt.empty]⟩
example : PlainOp (.insert (-1) (.str sY)) ∧ PlainOp (.append (.grp gA)) :=
  ⟨trivial, ⟨.brace, [97], rfl⟩⟩

set_option linter.unusedVariables false in
/-- **Histories over the pool of the property.** The conclusion is that of `run_refines` without the
invariant, so the two plainness hypotheses are not used. -/
theorem run_refines_plain (st : ArgsSt) (ops : List ArgsOp) (h : Inv st) (hp : PlainSt st)
    (hops : ∀ op ∈ ops, PlainOp op) :
    abs (Args.run st ops).1 = (specRun (abs st) ops).1 ∧
    OutsRel SameObj (Args.run st ops).2 (specRun (abs st) ops).2 := by
  have := run_refines st ops h
  exact ⟨this.1, this.2.2⟩
example : (Args.run (.empty 0) [.extend [.str sA, .grp ⟨.ext 0, eA⟩, .str [32]], .pop 1]).2
    = [.none, .item (.grp ⟨.ext 0, eA⟩)] := rfl

/-- **Failed operations change nothing.** On a state satisfying the invariant, an operation
other than `extend` that ends in `TypeError`, `ValueError` or `IndexError` leaves both the
list and `.all` exactly as they were. (For `extend` see `extend_failure_keeps_prefix`.) -/
theorem failed_ops_keep_state (st : ArgsSt) (op : ArgsOp) (h : Inv st)
    (hop : isExtendOp op = false) (herr : isError (Args.step st op).2 = true) :
    (Args.step st op).1.lst = st.lst ∧ (Args.step st op).1.all = st.all :=
  (step_char st op h).2.2.2.1 hop herr
-- remove(' ') on TexArgs(['{a}', ' ', '{b}']): ValueError, `.all` keeps its blank
example : Args.step stAB (.remove (.str [32])) = (stAB, .valueError) := rfl
-- a mismatched string
example : Args.step stAB (.insert 1 (.str [91, 120, 125])) = (stAB, .typeError) := rfl

/-- **A rejected string changes nothing at all**: whenever the coercion of the operand
fails, `append`, `insert` and `remove` return `TypeError` with the state untouched – in any
state, invariant or not. -/
theorem failed_coercion_changes_nothing (st : ArgsSt) (i : Int) (a : ArgIn)
    (h : coerce st.next a = none) :
    Args.step st (.append a) = (st, .typeError) ∧ Args.step st (.insert i a) = (st, .typeError) ∧
    Args.step st (.remove a) = (st, .typeError) := by
  simp [Args.step, Args.append, Args.insert, Args.remove, h]
example : coerce 5 (.str [91, 120, 125]) = none := rfl

/-- **A failing `extend` is `extend` by the items before the offending one**: if
`extend(as)` raises, then `as = pre ++ bad :: post` where `bad` is the first operand whose
coercion fails, the exception is `TypeError`, and the state is exactly the one
`extend(pre)` produces without exception. -/
theorem extend_failure_keeps_prefix (st : ArgsSt) (as : List ArgIn) (h : Inv st)
    (herr : isError (Args.extend st as).2 = true) :
    ∃ pre bad post, as = pre ++ bad :: post ∧ coerce (Args.extend st as).1.next bad = none ∧
      (Args.extend st as).2 = .typeError ∧
      Args.extend st pre = ((Args.extend st as).1, .none) := by
  induction as generalizing st with
  | nil => simp [Args.extend, isError] at herr
  | cons a r ih =>
    unfold Args.extend Args.append at herr ⊢
    rcases insert_char st st.lst.length a h with ⟨hc, hi⟩ | ⟨it, n, m, _, _, hi, hinv⟩
    · rw [hi]
      exact ⟨[], a, r, rfl, hc, rfl, rfl⟩
    · rw [hi] at herr ⊢
      simp only at herr ⊢
      rcases ih _ hinv herr with ⟨pre, bad, post, h1, h2, h3, h4⟩
      refine ⟨a :: pre, bad, post, by simp [h1], h2, h3, ?_⟩
      simp only [hi]
      exact h4
example : Args.step stAB (.extend [.str sY, .str [120], .str sA])
    = (⟨[gA, gB, ⟨.made 2, eY⟩], [.grp gA, .grp gB, .grp ⟨.made 2, eY⟩, .ws [32]], 3⟩, .typeError) := rfl

/-- **Coercion is what the property says.** `'{' + s + '}'` becomes a new brace group whose
single content is the string `s`, `'[' + s + ']'` a new bracket group; a blank string is kept
as whitespace (and only ever reaches `.all`); every other string – mismatched delimiters
such as `'[x}'`, a lone `'{'`, text outside the delimiters, the empty string – is rejected
with `TypeError`. (`'[]'` and `'{}'` are the cases `s = ''`.) `n` is the allocation counter:
the new group is the `n`-th object made. -/
theorem coerce_correct (n : Nat) :
    (∀ s : Str, coerce n (.str (123 :: (s ++ [125])))
      = some (.grp ⟨.made n, .group .brace [.text s (-1)] (-1)⟩, n + 1)) ∧
    (∀ s : Str, coerce n (.str (91 :: (s ++ [93])))
      = some (.grp ⟨.made n, .group .bracket [.text s (-1)] (-1)⟩, n + 1)) ∧
    (∀ s : Str, isBlank s = true → coerce n (.str s) = some (.ws s, n)) ∧
    (∀ s : Str, isBlank s = false → (∀ t, s ≠ 123 :: (t ++ [125])) → (∀ t, s ≠ 91 :: (t ++ [93])) →
      coerce n (.str s) = none) := by
  have h1 : isSpaceCh 91 = false := by decide
  have h2 : isSpaceCh 123 = false := by decide
  refine ⟨?_, ?_, ?_, ?_⟩
  · intro s
    rw [coerce_eq_spec]
    simp [specVal, specStr, isBlank, h2, specGroup]
  · intro s
    rw [coerce_eq_spec]
    simp [specVal, specStr, isBlank, h1, specGroup]
  · intro s hs
    rw [coerce_eq_spec]
    simp [specVal, specStr, hs]
  · intro s hs hbrace hbracket
    rw [coerce_eq_spec]
    have : specGroup s = none := by
      unfold specGroup
      split
      · next t =>
        split
        · next hl =>
          rcases List.getLast?_eq_some_iff.mp hl with ⟨u, rfl⟩
          exact absurd rfl (hbracket u)
        · rfl
      · next t =>
        split
        · next hl =>
          rcases List.getLast?_eq_some_iff.mp hl with ⟨u, rfl⟩
          exact absurd rfl (hbrace u)
        · rfl
      · rfl
    simp [specVal, specStr, hs, this]
example : coerce 0 (.str [91, 120, 125]) = none ∧ coerce 0 (.str [123]) = none ∧ coerce 0 (.str []) = none ∧
    coerce 4 (.str [91, 93]) = some (.grp ⟨.made 4, .group .bracket [.text [] (-1)] (-1)⟩, 5) ∧
    coerce 4 (.str [91, 93, 93]) = some (.grp ⟨.made 4, .group .bracket [.text [93] (-1)] (-1)⟩, 5) ∧
    coerce 4 (.str [32, 10]) = some (.ws [32, 10], 4) := ⟨rfl, rfl, rfl, rfl, rfl, rfl⟩

/-- **Serialisation.** `str(args)` is the concatenation of the `str` of the list items in
list order (this is the `serL` of the arguments that `ser` of the owning command/environment
prints); `.all` plays no part, and asking for it changes nothing. -/
theorem str_is_concat (st : ArgsSt) :
    Args.step st .str = (st, .string (st.lst.map fun o => ser o.e).flatten) ∧
    (st.lst.map fun o => ser o.e).flatten = serL (st.lst.map Obj.e) := by
  simp [Args.step, Args.str, serL_eq_flatten]
example : (Args.step stAB .str).2 = .string [123, 97, 125, 123, 98, 125] := rfl

namespace Legacy
/-- **Negative result (defect F9, before the repair).** The old `insert` passed the raw index
to the book-keeping. On `TexArgs(['{a}', '{b}'])` – reachable, invariant holds –
`insert(-1, '{y}')` puts `{y}` into the list, then looks *it* up in `.all`
(`before = self[-2]` is the new item) and raises `ValueError`: the caller sees an exception
where `list.insert` succeeds, the list has changed nevertheless, and the resulting state
violates the invariant (`{y}` is not in `.all`). -/
theorem insert_breaks_list_semantics :
    let gY : Obj := ⟨.made 2, eY⟩
    let st : ArgsSt := ⟨[gA, gB], [.grp gA, .grp gB], 2⟩
    (Args.construct [.str sA, .str sB]).1 = st ∧ Inv st ∧
    Args.Legacy.insert st (-1) (.str sY) = (⟨[gA, gY, gB], [.grp gA, .grp gB], 3⟩, .valueError) ∧
    specStep (abs st) (.insert (-1) (.str sY)) = (([gA, gY, gB], 3), .none) ∧
    ¬ Inv ⟨[gA, gY, gB], [.grp gA, .grp gB], 3⟩ := by
  refine ⟨rfl, ?_, rfl, rfl, fun h => absurd (h.objs (.made 2)) (by decide)⟩
  exact (extend_refines (.empty 0) [.str sA, .str sB] (inv_empty 0)).2.1

/-- **Negative result (before the first repair of `pop`).** The old `pop` ended in
`return self.all.pop(j)` with `j = self.all.index(item)`: with two textually equal groups that
are different objects (source positions 3 and 7), `pop(1)` handed back the one at position 3
although the list item at index 1 is the one at position 7, which `list.pop` returns. The
state is reachable (`TexArgs([g3, g7])`). -/
theorem pop_returns_textual_twin :
    let g3 : Obj := ⟨.ext 3, .group .brace [.text [97] (-1)] 3⟩
    let g7 : Obj := ⟨.ext 7, .group .brace [.text [97] (-1)] 7⟩
    let st := (Args.construct [.grp g3, .grp g7]).1
    st = ⟨[g3, g7], [.grp g3, .grp g7], 0⟩ ∧ Inv st ∧
    Args.Legacy.pop st 1 = (⟨[g3], [.grp g7], 0⟩, .item (.grp g3)) ∧
    specStep (abs st) (.pop 1) = (([g3], 0), .item g7) := by
  exact ⟨rfl, (extend_refines (.empty 0) _ (inv_empty 0)).2.1, rfl, rfl⟩

/-- **The old `pop` against the current one**: the same list afterwards and the same
`IndexError`s; where the current `pop` returns the list item, the old one returned an entry
of `.all` that prints like it (or raised `ValueError` if, after an edit, none did). -/
theorem pop_differs_only_in_returned_object (st : ArgsSt) (i : Int) (h : Inv st) :
    (Args.Legacy.pop st i).1.lst = (Args.pop st i).1.lst ∧
    ((Args.pop st i).2 = .indexError ∧ Args.Legacy.pop st i = (st, .indexError) ∨
     ∃ o, (Args.pop st i).2 = .item (.grp o) ∧ o ∈ st.lst ∧
       ((Args.Legacy.pop st i).2 = .valueError ∨
        ∃ r, (Args.Legacy.pop st i).2 = .item r ∧ r ∈ st.all ∧ r.txt = ser o.e)) := by
  unfold Args.Legacy.pop Args.pop
  cases hk : pyIndex st.lst.length i with
  | none => exact ⟨rfl, Or.inl ⟨rfl, rfl⟩⟩
  | some k =>
    have hklt := pyIndex_lt hk
    obtain ⟨j, hj, _⟩ := erase_ok h hklt
    simp only [List.getElem?_eq_getElem hklt, hj]
    cases ht : indexTxt st.lst[k] st.all with
    | none => exact ⟨rfl, Or.inr ⟨_, rfl, List.getElem_mem hklt, Or.inl rfl⟩⟩
    | some j' =>
      obtain ⟨hjlt, hjt⟩ := idxOfTxt_some _ _ _ _ ht
      simp only [List.getElem?_eq_getElem hjlt]
      exact ⟨trivial, Or.inr ⟨_, rfl, List.getElem_mem hklt,
        Or.inr ⟨_, rfl, List.getElem_mem hjlt, hjt⟩⟩⟩
example : Args.Legacy.pop stAB 5 = (stAB, .indexError) ∧
    Args.Legacy.pop stAB 0 = Args.pop stAB 0 := ⟨rfl, rfl⟩

/-- **On the pool of the property the old `pop` returned an equal value**: there a textual
twin has the same contents and position as the list item (it may still be another object,
which only `is` can tell). This is why a search over groups made from strings that compares
values does not see the defect. -/
theorem pop_agrees_on_plain_pool (st : ArgsSt) (i : Int) (h : Inv st) (hp : PlainSt st)
    (r : ArgItem) (hr : (Args.Legacy.pop st i).2 = .item r) :
    ∃ o o', (Args.pop st i).2 = .item (.grp o) ∧ r = .grp o' ∧ o'.e = o.e := by
  rcases pop_differs_only_in_returned_object st i h with ⟨_, ⟨_, h3⟩ | ⟨o, h2, ho, h3 | ⟨r', h3, hr', ht⟩⟩⟩
  · rw [h3] at hr; cases hr
  · rw [h3] at hr; cases hr
  · rw [h3] at hr; cases hr
    rcases twin_value_of_plain hp hr' ho ht with ⟨o', h4, h5⟩
    exact ⟨o, o', h2, h4, h5⟩
example : PlainSt stAB ∧ (Args.Legacy.pop stAB 1).2 = .item (.grp gB) :=
  ⟨⟨by intro e he; simp [stAB] at he; rcases he with rfl | rfl <;> exact ⟨_, _, rfl⟩,
    by intro it hi; simp [stAB] at hi
       rcases hi with rfl | rfl | rfl
       · exact ⟨_, _, rfl⟩
       · exact ⟨_, _, rfl⟩
       · show isBlank [32] = true; decide⟩, rfl⟩

/-- The repaired `insert` on the witness of `insert_breaks_list_semantics`: no exception,
list as `list.insert`, `.all` in step. -/
theorem insert_repaired_on_witness :
    Args.insert ⟨[gA, gB], [.grp gA, .grp gB], 2⟩ (-1) (.str sY)
      = (⟨[gA, ⟨.made 2, eY⟩, gB], [.grp gA, .grp ⟨.made 2, eY⟩, .grp gB], 3⟩, .none) := rfl
end Legacy

namespace Legacy2
/-- **Negative result (book-keeping by text).** Appending `'{a}'`, `'{a}'`, `'[b]'`: the old
code looked the left neighbour up with `self.all.index`, found the *first* `{a}` and put
`[b]` behind it – `.all` became `{a} [b] {a}` while the list is `{a} {a} [b]`. The current
code finds the neighbour itself. -/
theorem insert_misplaced_twin :
    let st := (Args.run (.empty 0) [.append (.str sA), .append (.str sA)]).1
    let b : Obj := ⟨.made 2, .group .bracket [.text [98] (-1)] (-1)⟩
    st = ⟨[⟨.made 0, eA⟩, ⟨.made 1, eA⟩], [.grp ⟨.made 0, eA⟩, .grp ⟨.made 1, eA⟩], 2⟩ ∧
    (Args.Legacy2.insert st 2 (.str [91, 98, 93])).1.all
      = [.grp ⟨.made 0, eA⟩, .grp b, .grp ⟨.made 1, eA⟩] ∧
    (Args.insert st 2 (.str [91, 98, 93])).1.all
      = [.grp ⟨.made 0, eA⟩, .grp ⟨.made 1, eA⟩, .grp b] :=
  ⟨rfl, rfl, rfl⟩

/-- **Negative result (`remove` touched `.all` first).** `remove(' ')` on
`TexArgs(['{a}', ' ', '{b}'])` raised `ValueError` as a list does, but had already deleted
the blank from `.all`; the current code raises with `.all` untouched. -/
theorem remove_mutated_all_before_raising :
    Args.Legacy2.remove stAB (.str [32]) = (⟨[gA, gB], [.grp gA, .grp gB], 2⟩, .valueError) ∧
    Args.remove stAB (.str [32]) = (stAB, .valueError) :=
  ⟨rfl, rfl⟩
end Legacy2

end C18
end TexSoup
