import TexSoupProofs.Properties.C02
import TexSoupProofs.Properties.TokInverse
import TexSoupProofs.Properties.C01
/-!
# C01 / C02 at the level of source strings

Token-level completeness of the reader (`C02.parse_complete`) composed with the tokenizer
inverse (`tokenize_inverse_positioned`): the source text of a well-formed, well-separated
document of the grammar parses – in both tolerance modes – to exactly the generating tree.
`Separated`, together with `Positioned 0`, characterises the token lists that are tokenizer outputs
(`tokenize_iff`): each token, followed by the text of the remaining tokens, is tokenized back
as itself (a command name is not followed by a letter, two text tokens are not adjacent, `$`
is not followed by `$`, …).
-/
namespace TexSoup.C02
open TexSoup TexSoup.Gram

/-- **Well-formed documents parse to their generating tree** (string level, every nesting
depth and length, both tolerance modes, any additional verbatim-like names). -/
theorem document_parses (tol : Bool) (skip : List Str) (d : Doc)
    (hwf : WFD (Tables.skipEnvNames ++ skip) d = true)
    (hsep : Separated none (toksD d)) (hpos : Positioned 0 (toksD d)) :
    parse tol skip (flat (toksD d)) = .ok (treeD d) :=
  parse_complete tol skip (flat (toksD d)) d (tokenize_inverse_positioned hsep hpos) hwf

/-- … and strict and tolerant parsing agree on them (no closer is ever invented). -/
theorem document_parses_both (skip : List Str) (d : Doc)
    (hwf : WFD (Tables.skipEnvNames ++ skip) d = true)
    (hsep : Separated none (toksD d)) (hpos : Positioned 0 (toksD d)) :
    parse false skip (flat (toksD d)) = .ok (treeD d) ∧ parse true skip (flat (toksD d)) = .ok (treeD d) :=
  ⟨document_parses false skip d hwf hsep hpos, document_parses true skip d hwf hsep hpos⟩

/-- C01 for grammar documents: the document parses, and – under the side conditions of the
round-trip theorem – serialising the tree gives back the source. -/
theorem document_roundtrip (skip : List Str) (d : Doc)
    (hwf : WFD (Tables.skipEnvNames ++ skip) d = true)
    (hsep : Separated none (toksD d)) (hpos : Positioned 0 (toksD d))
    (hs : ∀ c ∈ flat (toksD d), isIgnored (catOf c) = false)
    (hskip : ∀ n, memStr n skip = true → PlainEnvName n)
    (henv : C08.EnvNamesPlain (toksD d)) (hnb : noBareL (treeD d) = true)
    (hadj : noSpacerBeforeOpener (toksD d) = true) :
    parse false skip (flat (toksD d)) = .ok (treeD d) ∧ serL (treeD d) = flat (toksD d) := by
  have hp := document_parses false skip d hwf hsep hpos
  have ht := tokenize_inverse_positioned hsep hpos
  refine ⟨hp, C01.roundtrip skip _ _ hs hp hskip ?_ hnb ?_⟩
  · intro ts hts; rw [ht] at hts; cases hts; exact henv
  · intro ts hts; rw [ht] at hts; cases hts; exact hadj

/-- **Meaning of a certificate** (driver request `cert`): if the candidate document `d` found
for the source `s` reproduces the tokens of `s` and is well-formed – two Boolean checks evaluated
by the compiled definitions – then `parse` returns exactly `treeD d` on `s`, in both tolerance
modes. Nothing is assumed about how `d` was found. -/
theorem cert_sound (tol : Bool) (skip : List Str) (s : Str) (ts : List Tok) (d : Doc)
    (ht : tokenize s = some ts) (htoks : (toksD d == ts) = true)
    (hwf : WFD (Tables.skipEnvNames ++ skip) d = true) :
    parse tol skip s = .ok (treeD d) := by
  have h : toksD d = ts := eq_of_beq htoks
  exact parse_complete tol skip s d (by rw [h]; exact ht) hwf

end TexSoup.C02
