import TexSoupModel.Pos
import TexSoupProofs.PosSpec
import TexSoupProofs.PosLemmas
import TexSoupProofs.Properties.C13Lines
/-!
# C13, clause "char_pos_to_line": the map is injective and invertible on the offsets of a string

`C13Lines.charPosToLine_correct_le` says that the model of `CharToLineOffset.__call__` equals the
specification `lineCol`. This file adds what a user of line/column pairs relies on and what the
specification alone does not make obvious: two different offsets of one string never share a
line/column pair (`charPosToLine_injective`), the offset is recovered from the pair by adding the
column to the start of its line (`charPosToLine_recover`), and the start of a line depends only on the
line number (`lineStart_eq_of_same_line`). So a wrong pair can never be "right for another
character": a change of `__call__` that keeps the pair plausible for some other offset is still a
change of the function proved here.
-/
namespace TexSoup
namespace C13Lines
open PosLemmas PosSpec

theorem lineCol_recover (s : Str) (p : Nat) (hp : p ≤ s.length) :
    lineStart (s.take p) + (lineCol s p).2 = p := by
  have h := lineStart_le (s.take p)
  rw [List.length_take_of_le hp] at h
  exact Nat.add_sub_cancel' h

theorem lineStart_eq_of_same_line (s : Str) (p q : Nat) (hpq : p ≤ q)
    (hline : (lineCol s p).1 = (lineCol s q).1) :
    lineStart (s.take q) = lineStart (s.take p) := by
  have hsplit : s.take q = s.take p ++ (s.drop p).take (q - p) := by
    rw [← List.take_add, Nat.add_sub_cancel' hpq]
  rw [hsplit]
  refine lineStart_append_no_lf _ _ (List.count_eq_zero.mp ?_)
  have hc : (s.take p).count 10 = (s.take q).count 10 := hline
  rw [hsplit, List.count_append] at hc
  omega

/-- **Injectivity of the specification:** two offsets of a string (the end offset included) with the
same line and column are the same offset. -/
theorem lineCol_injective (s : Str) (p q : Nat) (hp : p ≤ s.length) (hq : q ≤ s.length)
    (h : lineCol s p = lineCol s q) : p = q := by
  have h1 : (lineCol s p).1 = (lineCol s q).1 := by rw [h]
  have h2 : (lineCol s p).2 = (lineCol s q).2 := by rw [h]
  have rp := lineCol_recover s p hp
  have rq := lineCol_recover s q hq
  rcases Nat.le_total p q with hpq | hqp
  · have := lineStart_eq_of_same_line s p q hpq h1
    omega
  · have := lineStart_eq_of_same_line s q p hqp h1.symm
    omega

/-- **C13 (line/column clause), injectivity of the code's map:** `char_pos_to_line` never gives two
different offsets of a document the same line/column pair. -/
theorem charPosToLine_injective (s : Str) (p q : Nat) (hp : p ≤ s.length) (hq : q ≤ s.length)
    (h : charPosToLine s p = charPosToLine s q) : p = q := by
  rw [charPosToLine_correct_le s p hp, charPosToLine_correct_le s q hq] at h
  have h1 : (lineCol s p).1 = (lineCol s q).1 := (Prod.mk.inj h).1
  have h2 : ((lineCol s p).2 : Int) = ((lineCol s q).2 : Int) := (Prod.mk.inj h).2
  have h2' : (lineCol s p).2 = (lineCol s q).2 := by exact_mod_cast h2
  exact lineCol_injective s p q hp hq (Prod.ext h1 h2')
-- non-vacuity: in "ab\ncd" the offsets 0 and 3 both have column 0, but on different lines
example : charPosToLine [97, 98, 10, 99, 100] 0 = (0, 0) ∧ charPosToLine [97, 98, 10, 99, 100] 3 = (1, 0) := by
  decide +kernel

/-- **Inverse:** the offset is recovered from the result of `char_pos_to_line` as start of the line
plus column. -/
theorem charPosToLine_recover (s : Str) (p : Nat) (hp : p ≤ s.length) :
    (lineStart (s.take p) : Int) + (charPosToLine s p).2 = p := by
  rw [charPosToLine_correct_le s p hp]
  have := lineCol_recover s p hp
  simp only
  exact_mod_cast this

theorem no_lf_after_lineStart (t : Str) : 10 ∉ t.drop (lineStart t) := by
  rcases split_last_lf t with h | ⟨pre, seg, rfl, hseg⟩
  · exact fun hm => h (List.mem_of_mem_drop hm)
  · have hl : (pre ++ [10]).length = pre.length + 1 := List.length_append
    rw [lineStart_after_lf pre seg hseg, List.append_cons, ← hl, List.drop_left]
    exact hseg

theorem lf_before_lineStart (t : Str) : lineStart t = 0 ∨ t[lineStart t - 1]? = some 10 := by
  rcases split_last_lf t with h | ⟨pre, seg, rfl, hseg⟩
  · exact Or.inl (lineStart_no_lf _ h)
  · rw [lineStart_after_lf pre seg hseg]
    exact Or.inr (by simp)

/-- No line break lies between the start of the reported line and offset `p` ... -/
theorem lineCol_no_lf_between (s : Str) (p : Nat) :
    10 ∉ (s.take p).drop (lineStart (s.take p)) :=
  no_lf_after_lineStart _

/-- ... and the character just before the start of the reported line is a line break (unless the
line is the first one, which starts at offset 0). -/
theorem lineCol_lf_before_start (s : Str) (p : Nat) :
    lineStart (s.take p) = 0 ∨ (s.take p)[lineStart (s.take p) - 1]? = some 10 :=
  lf_before_lineStart _

end C13Lines
end TexSoup
