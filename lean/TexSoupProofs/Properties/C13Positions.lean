import TexSoupProofs.Reader.Positions
import TexSoupProofs.Properties.TokHyp
import TexSoupProofs.Properties.C19
import TexSoupProofs.Properties.TestVectors
/-!
# C13, clause "positions": every node's recorded position is where its text starts

For every node `x` of a parsed document (`subExprsL es`: all nodes, through arguments and
bodies) that has a position (`0 ≤ x.pos`; only the made-up brace group of a bare-token
argument and the text in it carry `-1`), the source carries at offset `x.pos` the first token
the node was read from, and the node's text `str(x)` starts with that token:

* `\` for a command and for a `\begin{..}` environment,
* the opening delimiter for a group (`{`, `[`) and a math region (`$`, `$$`, `\(`, `\[`),
* the token itself for a text leaf (`readExpr_text`: text and position are the token's).

One kind of node is not covered by "starts with": the text child of an *empty*
verbatim-like environment (`\begin{verbatim}\end{verbatim}`) is `''` and is recorded at the
offset of the `\` of `\end` (`read_skip_env` peeks the position before it reads the body).
The theorem therefore says `ser x = [] ∨ …`; `intended_statement_false` shows that the
disjunct cannot be dropped. A node with empty text is necessarily such a leaf (`ser_eq_nil`).

No hypothesis on ignored characters (NUL/DEL) is needed: the claim for a command looks only at
its `\`, never at the name token behind it, and `token_offsets`/`tokens_shaped` hold for every
input.
-/
namespace TexSoup.C13

variable {tol : Bool} {skip : List Str} {s : Str} {ts : List Tok} {es : List Expr}

/-- **C13 (positions).** At offset `x.pos` the source carries the first token of the node, and
the node's text starts with that token (or is empty: empty verbatim-like environment). -/
theorem node_positions (ht : tokenize s = some ts) (h : parse tol skip s = .ok es) :
    ∀ x ∈ subExprsL es, 0 ≤ x.pos →
      ∃ t ∈ ts, (t.pos : Int) = x.pos ∧ (ser x = [] ∨ isPrefix t.text (ser x) = true) ∧
        t.text = (s.drop t.pos).take t.text.length := by
  intro x hx h0
  have hloc : LocatedL ts es := parse_located ht (tokens_shaped ht) h
  obtain ⟨t, htm, hp, hpre⟩ := hloc.nodes es x hx h0
  exact ⟨t, htm, hp, hpre, token_offsets ht t htm⟩

/-- For every node that is not an empty text leaf - in particular every command, environment,
group and math region - the text starts with the token. -/
theorem node_positions_nonempty (ht : tokenize s = some ts) (h : parse tol skip s = .ok es) :
    ∀ x ∈ subExprsL es, 0 ≤ x.pos → ser x ≠ [] →
      ∃ t ∈ ts, (t.pos : Int) = x.pos ∧ isPrefix t.text (ser x) = true ∧
        t.text = (s.drop t.pos).take t.text.length := by
  intro x hx h0 hne
  obtain ⟨t, htm, hp, hpre, hoff⟩ := node_positions ht h x hx h0
  exact ⟨t, htm, hp, hpre.resolve_left hne, hoff⟩

/-- The same with the property's own side condition (no ignored characters), which the proof
does not use. -/
theorem node_positions_noIgnored (_hs : ∀ c ∈ s, isIgnored (catOf c) = false)
    (ht : tokenize s = some ts) (h : parse tol skip s = .ok es) :
    ∀ x ∈ subExprsL es, 0 ≤ x.pos →
      ∃ t ∈ ts, (t.pos : Int) = x.pos ∧ (ser x = [] ∨ isPrefix t.text (ser x) = true) ∧
        t.text = (s.drop t.pos).take t.text.length :=
  node_positions ht h

/-- Without tokens: the character of the source at offset `x.pos` is the first character of
the node's text. -/
theorem node_first_char (ht : tokenize s = some ts) (h : parse tol skip s = .ok es) :
    ∀ x ∈ subExprsL es, 0 ≤ x.pos → ser x ≠ [] → s[x.pos.toNat]? = (ser x).head? := by
  intro x hx h0 hne
  obtain ⟨t, htm, hp, hpre, hoff⟩ := node_positions_nonempty ht h x hx h0 hne
  obtain ⟨u, hu⟩ := isPrefix_iff.1 hpre
  have hpos : x.pos.toNat = t.pos := by omega
  cases htx : t.text with
  | nil => exact absurd htx (token_nonempty ht t htm)
  | cons c r =>
    rw [htx] at hoff hu
    have := congrArg List.head? hoff
    rw [hpos, hu, ← List.head?_drop]
    simpa [List.head?_take] using this.symm

/-- `\a{\b}[c]$x$` -/
def exDoc : Str := [92, 97, 123, 92, 98, 125, 91, 99, 93, 36, 120, 36]

def exToks : List Tok :=
  [⟨[92], 0, .Escape⟩, ⟨[97], 1, .CommandName⟩, ⟨[123], 2, .GroupBegin⟩, ⟨[92], 3, .Escape⟩,
   ⟨[98], 4, .CommandName⟩, ⟨[125], 5, .GroupEnd⟩, ⟨[91], 6, .BracketBegin⟩, ⟨[99], 7, .Text⟩,
   ⟨[93], 8, .BracketEnd⟩, ⟨[36], 9, .MathSwitch⟩, ⟨[120], 10, .Text⟩, ⟨[36], 11, .MathSwitch⟩]

def exTree : List Expr :=
  [.cmd [97] [.group .brace [.cmd [98] [] [] 3] 2, .group .bracket [.text [99] 7] 6] [] 0,
   .math .dollar [.text [120] 10] 9]

theorem exDoc_tokens : tokenize exDoc = some exToks := by decide +kernel
theorem exDoc_parse : parse false [] exDoc = .ok exTree :=
  parse_of_tokens exDoc_tokens (by decide +kernel)
example : subExprsL exTree =
    [.cmd [97] [.group .brace [.cmd [98] [] [] 3] 2, .group .bracket [.text [99] 7] 6] [] 0,
     .group .brace [.cmd [98] [] [] 3] 2, .cmd [98] [] [] 3,
     .group .bracket [.text [99] 7] 6, .text [99] 7,
     .math .dollar [.text [120] 10] 9, .text [120] 10] := by decide +kernel
example : (subExprsL exTree).map Expr.pos = [0, 2, 3, 6, 7, 9, 10] := by decide +kernel
/-- the source characters at the recorded offsets: `\ { \ [ c $ x` -/
example : ((subExprsL exTree).map fun x => exDoc[x.pos.toNat]?) =
    [some 92, some 123, some 92, some 91, some 99, some 36, some 120] := by decide +kernel
example : ((subExprsL exTree).map fun x => (ser x).head?) =
    [some 92, some 123, some 92, some 91, some 99, some 36, some 120] := by decide +kernel

/-- a bare token as mandatory argument: the made-up group and its text carry `-1` -/
example : parse false [] [92, 100, 101, 102, 92, 97, 32, 98] = .ok
    [.cmd [100, 101, 102] [.cmd [97] [] [] 4, .group .brace [.text [32, 98] (-1)] (-1)] [] 0] :=
  Vec.def_bare

/-- `\begin{verbatim}$x\end{verbatim}` -/
def exVerb : Str :=
  [92, 98, 101, 103, 105, 110, 123, 118, 101, 114, 98, 97, 116, 105, 109, 125, 36, 120,
   92, 101, 110, 100, 123, 118, 101, 114, 98, 97, 116, 105, 109, 125]

def exVerbToks : List Tok :=
  [⟨[92], 0, .Escape⟩, ⟨[98, 101, 103, 105, 110], 1, .CommandName⟩, ⟨[123], 6, .GroupBegin⟩,
   ⟨[118, 101, 114, 98, 97, 116, 105, 109], 7, .Text⟩, ⟨[125], 15, .GroupEnd⟩,
   ⟨[36], 16, .MathSwitch⟩, ⟨[120], 17, .Text⟩, ⟨[92], 18, .Escape⟩,
   ⟨[101, 110, 100], 19, .CommandName⟩, ⟨[123], 22, .GroupBegin⟩,
   ⟨[118, 101, 114, 98, 97, 116, 105, 109], 23, .Text⟩, ⟨[125], 31, .GroupEnd⟩]

theorem exVerb_tokens : tokenize exVerb = some exVerbToks := by decide +kernel

/-- The text child of a verbatim-like environment is several tokens (`$`, `x`), recorded at
the first. -/
example : parse false [] exVerb = .ok
    [.nenv [118, 101, 114, 98, 97, 116, 105, 109] [] [.text [36, 120] 16] 0] :=
  parse_of_tokens exVerb_tokens (by decide +kernel)

/-- `\begin{verbatim}\end{verbatim}` -/
def exEmpty : Str :=
  [92, 98, 101, 103, 105, 110, 123, 118, 101, 114, 98, 97, 116, 105, 109, 125,
   92, 101, 110, 100, 123, 118, 101, 114, 98, 97, 116, 105, 109, 125]

def exEmptyToks : List Tok :=
  [⟨[92], 0, .Escape⟩, ⟨[98, 101, 103, 105, 110], 1, .CommandName⟩, ⟨[123], 6, .GroupBegin⟩,
   ⟨[118, 101, 114, 98, 97, 116, 105, 109], 7, .Text⟩, ⟨[125], 15, .GroupEnd⟩,
   ⟨[92], 16, .Escape⟩, ⟨[101, 110, 100], 17, .CommandName⟩, ⟨[123], 20, .GroupBegin⟩,
   ⟨[118, 101, 114, 98, 97, 116, 105, 109], 21, .Text⟩, ⟨[125], 29, .GroupEnd⟩]

def exEmptyTree : List Expr := [.nenv [118, 101, 114, 98, 97, 116, 105, 109] [] [.text [] 16] 0]

theorem exEmpty_tokens : tokenize exEmpty = some exEmptyToks := by decide +kernel

theorem exEmpty_parse : parse false [] exEmpty = .ok exEmptyTree :=
  parse_of_tokens exEmpty_tokens (by decide +kernel)

/-- The statement without the `ser x = []` case is false: the empty text child of
`\begin{verbatim}\end{verbatim}` is recorded at offset 16, where the source carries the `\`
of `\end`. -/
theorem intended_statement_false :
    ∃ (s : Str) (ts : List Tok) (es : List Expr),
      (∀ c ∈ s, isIgnored (catOf c) = false) ∧ tokenize s = some ts ∧
      parse false [] s = .ok es ∧
      ¬ ∀ x ∈ subExprsL es, 0 ≤ x.pos → ∃ t ∈ ts, (t.pos : Int) = x.pos ∧
          isPrefix t.text (ser x) = true := by
  have ht := exEmpty_tokens
  refine ⟨exEmpty, exEmptyToks, exEmptyTree, by decide +kernel, ht, exEmpty_parse, ?_⟩
  intro hall
  obtain ⟨t, htm, _, hpre⟩ := hall (.text [] 16) (by decide +kernel) (by decide)
  have hne := token_nonempty ht t htm
  cases htx : t.text with
  | nil => exact hne htx
  | cons c r => rw [htx] at hpre; simp [ser, isPrefix] at hpre

end TexSoup.C13
