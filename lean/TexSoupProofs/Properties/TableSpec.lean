import TexSoupModel.Read
/-!
# The tables the properties name

`TexSoupModel/Generated/Tables.lean` is regenerated from the repository on every run, so the
model always follows the tables of the code. Several properties, however, *name* entries of
those tables: the built-in verbatim-like environments (C01, C11), the named math environments
and the zero-argument operators (C12), the commands with a fixed signature (C09, C16), the
sizing prefixes (C12, C16), and the characters that end a line, open a comment, are blanks
(C08, C10, C13, C19). An edit of a table that drops or re-files such an entry leaves model and
code in agreement while the property no longer says what it said. The theorems below state
those entries against the generated tables; they stop compiling when such an edit is made.
They deliberately say *membership* and *exact category*, not equality of whole tables: adding
a new verbatim-like name, a new math environment or a new signature does not falsify a property.
-/
namespace TexSoup.TableSpec

/-- C01/C11: the built-in verbatim-like environments `verbatim`, `lstlisting`, `Verbatim`,
`verbatimtab`, `listing`. -/
theorem builtin_verbatim_names :
    memStr [118, 101, 114, 98, 97, 116, 105, 109] Tables.skipEnvNames = true ∧
    memStr [108, 115, 116, 108, 105, 115, 116, 105, 110, 103] Tables.skipEnvNames = true ∧
    memStr [86, 101, 114, 98, 97, 116, 105, 109] Tables.skipEnvNames = true ∧
    memStr [118, 101, 114, 98, 97, 116, 105, 109, 116, 97, 98] Tables.skipEnvNames = true ∧
    memStr [108, 105, 115, 116, 105, 110, 103] Tables.skipEnvNames = true := by decide +kernel

/-- C12: the named math environments (`equation`, `align`, `gather`, `multline`, `eqnarray`,
`flalign` with their starred forms, `alignat`, `array`, `split`, `math`, `displaymath`). -/
theorem named_math_environments :
    ∀ n ∈ ([[101, 113, 117, 97, 116, 105, 111, 110], [101, 113, 117, 97, 116, 105, 111, 110, 42],
            [97, 108, 105, 103, 110], [97, 108, 105, 103, 110, 42], [97, 108, 105, 103, 110, 97, 116],
            [103, 97, 116, 104, 101, 114], [103, 97, 116, 104, 101, 114, 42],
            [109, 117, 108, 116, 108, 105, 110, 101], [109, 117, 108, 116, 108, 105, 110, 101, 42],
            [101, 113, 110, 97, 114, 114, 97, 121], [101, 113, 110, 97, 114, 114, 97, 121, 42],
            [102, 108, 97, 108, 105, 103, 110], [102, 108, 97, 108, 105, 103, 110, 42],
            [97, 114, 114, 97, 121], [115, 112, 108, 105, 116], [109, 97, 116, 104],
            [100, 105, 115, 112, 108, 97, 121, 109, 97, 116, 104]] : List Str),
      memStr n Tables.mathEnvNames = true := by decide +kernel

/-- No name is both verbatim-like and a math environment (the classification of `\begin{name}`
does not depend on the order of the two tests). -/
theorem verbatim_and_math_disjoint :
    ∀ n ∈ Tables.skipEnvNames, memStr n Tables.mathEnvNames = false := by decide +kernel

/-- C12: the zero-argument operators `\cup`, `\cap`, `\in`, `\notin`, `\infty` take no argument. -/
theorem zero_argument_operators :
    ∀ n ∈ ([[99, 117, 112], [99, 97, 112], [105, 110], [110, 111, 116, 105, 110],
            [105, 110, 102, 116, 121]] : List Str), cmdSig (-1) (-1) n = (0, 0) := by decide +kernel

/-- C16: `\def`, `\textbf`, `\section`, `\label` have a fixed signature with a mandatory argument. -/
theorem fixed_signatures :
    cmdSig (-1) (-1) [100, 101, 102] = (2, 0) ∧
    cmdSig (-1) (-1) [116, 101, 120, 116, 98, 102] = (1, 0) ∧
    cmdSig (-1) (-1) [115, 101, 99, 116, 105, 111, 110] = (1, 1) ∧
    cmdSig (-1) (-1) [108, 97, 98, 101, 108] = (1, 0) := by decide +kernel

/-- C08/C16: the side condition "the mandatory arguments of `\def`, `\textbf`, `\section` and
`\label` are brace-delimited" names ALL commands with a mandatory argument: no other name of the
table has one (a bare token after any other command is never turned into a made-up `{..}`
argument). The generated table is sorted by name. -/
theorem mandatory_argument_commands :
    (Tables.signatures.filter (fun e => decide (0 < e.2.1))).map (·.1) =
      [[100, 101, 102], [108, 97, 98, 101, 108], [115, 101, 99, 116, 105, 111, 110], [116, 101, 120, 116, 98, 102]] := by
  decide +kernel

/-- C09: names outside the table have the open signature; in particular a starred name is not
its base name (`\section*` takes every group that follows). -/
theorem starred_names_are_open :
    ∀ e ∈ Tables.signatures, cmdSig (-1) (-1) (e.1 ++ [42]) = (-1, -1) := by decide +kernel

/-- C09/C12: `\item`, `\begin`, `\end` and ordinary names such as `\x`, `\foo`, `\text`, `\itemsep`,
`\endnote` are outside the fixed-signature table. -/
theorem ordinary_names_are_open :
    ∀ n ∈ ([[105, 116, 101, 109], [98, 101, 103, 105, 110], [101, 110, 100], [120], [102, 111, 111],
            [116, 101, 120, 116], [105, 116, 101, 109, 115, 101, 112], [101, 110, 100, 110, 111, 116, 101]] : List Str),
      cmdSig (-1) (-1) n = (-1, -1) := by decide +kernel

/-- C12/C16: the sizing prefixes `\left`, `\right`, `\big`, `\Big`, `\bigg`, `\Bigg`, and the
delimiters `(`, `)`, `[`, `]`, `|`, `.` each of them may be followed by. -/
theorem sizing_prefixes_and_delimiters :
    (∀ n ∈ ([[108, 101, 102, 116], [114, 105, 103, 104, 116], [98, 105, 103], [66, 105, 103],
             [98, 105, 103, 103], [66, 105, 103, 103]] : List Str), n ∈ Tables.sizePrefix) ∧
    (∀ p ∈ Tables.sizePrefix, ∀ d ∈ ([[40], [41], [91], [93], [124], [46]] : List Str),
      memStr (p ++ d) Tables.punctuationCommands = true) := by decide +kernel

/-- `\newcommand`, `\renewcommand`, `\providecommand` read their arguments in special mode (C01, C02). -/
theorem definition_commands :
    ∀ n ∈ ([[110, 101, 119, 99, 111, 109, 109, 97, 110, 100],
            [114, 101, 110, 101, 119, 99, 111, 109, 109, 97, 110, 100],
            [112, 114, 111, 118, 105, 100, 101, 99, 111, 109, 109, 97, 110, 100]] : List Str),
      cmdMode n .nonMath = .special := by decide +kernel

def charsOf (c : CC) : List Nat := (Tables.catTable.filter (fun e => e.2 == c)).map (·.1)

/-- C10/C13/C19: a line ends at LF or CR and nowhere else (not at FF, VT, NEL, U+2028 …). -/
theorem end_of_line_chars : charsOf .EndOfLine = [10, 13] := by decide +kernel

/-- C08/C09/C16: the blanks that may be dropped in front of an argument group are space and tab. -/
theorem spacer_chars : charsOf .Spacer = [9, 32] := by decide +kernel

/-- C10: `%` and nothing else starts a comment; C19/C06: NUL is ignored, DEL invalid. -/
theorem comment_ignored_invalid_chars :
    charsOf .Comment = [37] ∧ charsOf .Ignored = [0] ∧ charsOf .Invalid = [127] := by decide +kernel

theorem structural_chars :
    charsOf .Escape = [92] ∧ charsOf .GroupBegin = [123] ∧ charsOf .GroupEnd = [125] ∧
    charsOf .MathSwitch = [36] ∧ charsOf .BracketBegin = [91] ∧ charsOf .BracketEnd = [93] ∧
    charsOf .ParenBegin = [40] ∧ charsOf .ParenEnd = [41] := by decide +kernel

/-- C02/C09/C19: command names are made of the ASCII letters; no other character is a letter
(in particular no non-ASCII alphabetic character). -/
theorem letter_chars :
    charsOf .Letter = (List.range 26).map (· + 65) ++ (List.range 26).map (· + 97) := by decide +kernel

/-- Every code point outside the table is `Other`: the category of a character depends on
nothing but the table (no `str.isalpha`, `str.isspace`, … short cut). -/
theorem untabled_is_other (c : Nat) (h : ∀ e ∈ Tables.catTable, e.1 ≠ c) : catOf c = .Other := by
  unfold catOf
  generalize Tables.catTable = t at h
  induction t with
  | nil => rfl
  | cons e t ih =>
    have h1 : e.1 ≠ c := h e (List.mem_cons_self ..)
    have h2 := ih (fun e' he' => h e' (List.mem_cons_of_mem _ he'))
    simp only [lookupD]
    rw [if_neg (by simpa using fun h => h1 h.symm)]
    exact h2

example : catOf 233 = .Other ∧ catOf 12 = .Other ∧ catOf 8232 = .Other ∧ catOf 0xD800 = .Other := by decide +kernel

end TexSoup.TableSpec
