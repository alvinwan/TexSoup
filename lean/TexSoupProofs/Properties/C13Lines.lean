import TexSoupModel.Pos
import TexSoupProofs.PosSpec
import TexSoupProofs.PosLemmas
/-!
# C13, clause "char_pos_to_line": the line/column map is the true one

Specification (`TexSoupProofs/PosSpec.lean`): the line of offset `p` is the number of LF characters before it, its column
is its distance from the position just after the last LF before it (from 0 if there is
none). `lineStart_no_lf`/`lineStart_after_lf` say what `lineStart` is in the two cases there are
(`PosLemmas.split_last_lf`); both follow from `lineStart_append_no_lf`. The code is characterised
at every offset (`charPosToLine_eq`); the clause of the property and the behaviour beyond the end
are read off from that.
-/
namespace TexSoup
namespace C13Lines
open PosLemmas PosSpec

theorem lineStart_le (t : Str) : lineStart t ≤ t.length := Nat.sub_le _ _

theorem lineStart_append_no_lf (t seg : Str) (h : 10 ∉ seg) : lineStart (t ++ seg) = lineStart t := by
  have hall : ∀ x ∈ seg.reverse, (x != 10) = true := fun x hx =>
    bne_iff_ne.mpr fun e => h (e ▸ List.mem_reverse.mp hx)
  unfold lineStart
  rw [List.reverse_append, List.takeWhile_append_of_pos hall, List.length_append,
    List.length_append, List.length_reverse]
  omega
example : lineStart ([97, 10, 98] ++ [99, 100]) = lineStart [97, 10, 98] := by decide +kernel

/-- Specification sanity: without a line break the line starts at 0. -/
theorem lineStart_no_lf (t : Str) (h : 10 ∉ t) : lineStart t = 0 :=
  lineStart_append_no_lf [] t h
example : lineStart [97, 98] = 0 := by decide +kernel

/-- Specification sanity: after `pre LF seg` with `seg` LF-free the line starts behind that LF. -/
theorem lineStart_after_lf (pre seg : Str) (h : 10 ∉ seg) :
    lineStart (pre ++ 10 :: seg) = pre.length + 1 := by
  rw [List.append_cons, lineStart_append_no_lf _ _ h]
  simp [lineStart]
example : lineStart [97, 10, 10, 98, 99] = 3 := by decide +kernel

theorem lineStart_pos {t : Str} (h : 10 ∈ t) : 1 ≤ lineStart t := by
  rcases split_last_lf t with h' | ⟨pre, seg, rfl, hseg⟩
  · exact absurd h h'
  · rw [lineStart_after_lf pre seg hseg]; exact Nat.le_add_left 1 _

/-- `CharToLineOffset.__call__` at every offset, inside the string or beyond it: the line is the
number of breaks before `p`; the column is `p` itself on the first line and otherwise the distance
from the start of the line, which the code's `min` clamps at `src_len + 1 - line_start`. -/
theorem charPosToLine_eq (s : Str) (p : Nat) :
    charPosToLine s p = ((s.take p).count 10,
      if 10 ∈ s.take p then
        min ((p : Int) - lineStart (s.take p)) ((s.length : Int) + 1 - lineStart (s.take p))
      else p) := by
  simp only [charPosToLine, bisectLeft_lineBreaks]
  rcases split_last_lf (s.take p) with h | ⟨pre, seg, ht, hseg⟩
  · rw [if_neg h, List.count_eq_zero.mpr h]; rfl
  · have hmem : 10 ∈ s.take p := by rw [ht]; simp
    rw [if_pos hmem]
    refine lineColOf_after_break (Nat.pos_iff_ne_zero.mp (List.count_pos_iff.mpr hmem)) ?_ ?_
    · rw [lineBreaks_getD_pred ht hseg, ht, lineStart_after_lf pre seg hseg]
    · rcases Nat.le_total p s.length with hp | hp
      · exact Or.inr hp
      · left; rw [List.take_of_length_le hp]; exact (length_lineBreaksFrom 0 s).symm

/-- **C13 (line/column clause).** For every string and every offset `p` up to and
including its length, the model of the repaired `CharToLineOffset.__call__` returns the
number of line breaks before `p` and the distance of `p` from the start of its line.
(`p < s.length` is the property's "every offset 0..len-1"; the end offset `p = s.length`
is covered too.) -/
theorem charPosToLine_correct_le (s : Str) (p : Nat) (hp : p ≤ s.length) :
    charPosToLine s p = ((lineCol s p).1, ((lineCol s p).2 : Int)) := by
  have hl : lineStart (s.take p) ≤ p :=
    Nat.le_trans (lineStart_le _) (List.length_take_le p s)
  rw [charPosToLine_eq]
  refine congrArg (Prod.mk _) ?_
  show _ = ((p - lineStart (s.take p) : Nat) : Int)
  split
  · omega
  · next h => rw [lineStart_no_lf _ h]; rfl

/-- **C13 (line/column clause), as quantified in the property:** every offset
`0 .. len-1`. -/
theorem charPosToLine_correct (s : Str) (p : Nat) (hp : p < s.length) :
    charPosToLine s p = ((lineCol s p).1, ((lineCol s p).2 : Int)) :=
  charPosToLine_correct_le s p (Nat.le_of_lt hp)
-- "ab\ncd": offset 2 is the LF itself (line 0, column 2), offset 3 is `c` (line 1, column 0)
example : charPosToLine [97, 98, 10, 99, 100] 2 = (0, 2) ∧ lineCol [97, 98, 10, 99, 100] 2 = (0, 2) := by
  decide +kernel
example : charPosToLine [97, 98, 10, 99, 100] 3 = (1, 0) ∧ lineCol [97, 98, 10, 99, 100] 3 = (1, 0) := by
  decide +kernel

/-- The end offset `p = len(s)` (one past the last character) is mapped correctly as well. -/
theorem charPosToLine_correct_at_end (s : Str) :
    charPosToLine s s.length = ((lineCol s s.length).1, ((lineCol s s.length).2 : Int)) :=
  charPosToLine_correct_le s s.length (Nat.le_refl _)
example : charPosToLine [97, 98, 10] 3 = (1, 0) := by decide +kernel

/-- Beyond the end the map is *not* the arithmetic continuation: with at least one line
break the column is clamped by `min(.., src_len - line_start)`, i.e. it stays at the value
of offset `len + 1`; without a line break the offset is returned unchanged. (Outside the
property's quantifier; recorded so that the behaviour of the `min` is on file.) -/
theorem charPosToLine_beyond_end (s : Str) (p : Nat) (hp : s.length < p) :
    charPosToLine s p =
      (s.count 10, if 10 ∈ s then ((s.length - (lineStart s - 1) : Nat) : Int) else (p : Int)) := by
  rw [charPosToLine_eq, List.take_of_length_le (Nat.le_of_lt hp)]
  refine congrArg (Prod.mk _) ?_
  split
  · next h =>
    have h1 := lineStart_pos h
    have h2 := lineStart_le s
    omega
  · rfl
example : charPosToLine [97, 98, 10, 99, 100] 9 = (1, 3) := by decide +kernel

namespace Legacy
/-- **Negative result (defect F6, before the repair).** With `bisect.bisect` (= `bisect_right`)
the offset of a line break itself is reported as column `-1` of the *next* line: in
`"ab\ncd"` offset 2 (the LF, truly line 0 column 2) comes out as `(1, -1)`. -/
theorem charPosToLine_wrong_at_lf :
    TexSoup.Legacy.charPosToLine [97, 98, 10, 99, 100] 2 = (1, -1) ∧
    lineCol [97, 98, 10, 99, 100] 2 = (0, 2) := by
  decide +kernel

/-- The legacy code is wrong at *every* line break: at the offset of an LF it reports the
following line (and hence a line number the true map never gives to that offset). -/
theorem charPosToLine_wrong_at_every_lf (s : Str) (p : Nat) (hp : p < s.length)
    (hlf : s[p]? = some 10) :
    (TexSoup.Legacy.charPosToLine s p).1 = (lineCol s p).1 + 1 := by
  obtain ⟨_, h10⟩ := List.getElem?_eq_some_iff.mp hlf
  rw [TexSoup.Legacy.charPosToLine, lineColOf_fst, bisectRight_lineBreaks,
    List.take_succ_eq_append_getElem hp, h10, List.count_append]
  rfl
end Legacy

end C13Lines
end TexSoup
