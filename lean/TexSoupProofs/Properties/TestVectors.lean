import TexSoupProofs.Reader.Basic
/-!
# Test vectors: decidable equality of trees, and the documents several property files evaluate

The property files close with evaluated examples ("non-vacuity"). A concrete run of the
tokenizer or the reader is checked by kernel evaluation (`decide +kernel`), which needs equality
of results to be decidable; `Expr` is a nested inductive type, for which `deriving DecidableEq`
is not available, so the instance is written out here. The parses that more than one file
refers to are proved once below.
-/
namespace TexSoup

mutual
def Expr.decEq : (a b : Expr) → Decidable (a = b)
  | .text s p, .text s' p' => decidable_of_iff (s = s' ∧ p = p') (by simp)
  | .cmd n as bs p, .cmd n' as' bs' p' =>
    have := Expr.decEqL as as'
    have := Expr.decEqL bs bs'
    decidable_of_iff (n = n' ∧ as = as' ∧ bs = bs' ∧ p = p') (by simp)
  | .nenv n as bs p, .nenv n' as' bs' p' =>
    have := Expr.decEqL as as'
    have := Expr.decEqL bs bs'
    decidable_of_iff (n = n' ∧ as = as' ∧ bs = bs' ∧ p = p') (by simp)
  | .math k bs p, .math k' bs' p' =>
    have := Expr.decEqL bs bs'
    decidable_of_iff (k = k' ∧ bs = bs' ∧ p = p') (by simp)
  | .group k bs p, .group k' bs' p' =>
    have := Expr.decEqL bs bs'
    decidable_of_iff (k = k' ∧ bs = bs' ∧ p = p') (by simp)
  | .text .., .cmd .. | .text .., .nenv .. | .text .., .math .. | .text .., .group ..
  | .cmd .., .text .. | .cmd .., .nenv .. | .cmd .., .math .. | .cmd .., .group ..
  | .nenv .., .text .. | .nenv .., .cmd .. | .nenv .., .math .. | .nenv .., .group ..
  | .math .., .text .. | .math .., .cmd .. | .math .., .nenv .. | .math .., .group ..
  | .group .., .text .. | .group .., .cmd .. | .group .., .nenv .. | .group .., .math .. =>
    isFalse nofun
def Expr.decEqL : (as bs : List Expr) → Decidable (as = bs)
  | [], [] => isTrue rfl
  | a :: as, b :: bs =>
    have := Expr.decEq a b
    have := Expr.decEqL as bs
    decidable_of_iff (a = b ∧ as = bs) (by simp)
  | [], _ :: _ | _ :: _, [] => isFalse nofun
end

instance : DecidableEq Expr := Expr.decEq

deriving instance DecidableEq for Except

/-- A parse whose token list is known: only the reader is left to evaluate (most of the work of
evaluating a parse is the tokenizer's: after every `\` it scans the table of sizing commands). -/
theorem parse_of_tokens {tol : Bool} {skip : List Str} {s : Str} {ts : List Tok}
    {r : Except Err (List Expr)} (ht : tokenize s = some ts)
    (h : readTex (parseFuel ts) (Tables.skipEnvNames ++ skip) tol ts = r) : parse tol skip s = r :=
  (parse_eq_readTex ht).trans h

namespace Vec

/-- `\a{b}` -/
theorem cmd_group_tokens : tokenize [92, 97, 123, 98, 125] =
    some [⟨[92], 0, .Escape⟩, ⟨[97], 1, .CommandName⟩, ⟨[123], 2, .GroupBegin⟩, ⟨[98], 3, .Text⟩,
      ⟨[125], 4, .GroupEnd⟩] := by decide +kernel

theorem cmd_group : parse false [] [92, 97, 123, 98, 125] =
    .ok [.cmd [97] [.group .brace [.text [98] 3] 2] [] 0] :=
  parse_of_tokens cmd_group_tokens (by decide +kernel)

/-- `{a` is a `TypeError` in strict mode … -/
theorem open_brace_strict : parse false [] [123, 97] = .error .type := by decide +kernel

/-- … and one group, closed at the end of the input, in tolerant mode. -/
theorem open_brace_tolerant : parse true [] [123, 97] = .ok [.group .brace [.text [97] 1] 0] := by
  decide +kernel

/-- `\def\a b` (signature (2, 0)): a bare command and a bare token as mandatory arguments; the
group made up for the token and the text in it carry position `-1`. -/
theorem def_bare : parse false [] [92, 100, 101, 102, 92, 97, 32, 98] = .ok
    [.cmd [100, 101, 102] [.cmd [97] [] [] 4, .group .brace [.text [32, 98] (-1)] (-1)] [] 0] := by
  decide +kernel

end Vec
end TexSoup
