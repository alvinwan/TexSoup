import TexSoupProofs.Complete.SqueezeSep
import TexSoupProofs.Complete.ParseText
import TexSoupProofs.Properties.C02Strings
/-!
# C16 for documents of the grammar – the serialised text is a fixed point

The step from these documents to every strictly parsing input the grammar represents is
`C16.reparse_fixed_point_all` (`C02Sound.lean`).

For every well-formed document of the grammar (`Gram.WFD`), written with arbitrary spacer
tokens between commands and their arguments:

 * `squeeze` drops exactly the tokens the reader drops (the optional spacer in front of every
   argument group and of the `{name}` after `\begin` / `\end`);
 * (a) if the document is canonically spelled (`Gram.canonD`, not `WFD`: delimiters carry their
   text, names have no blanks at their ends) the serialisation of the tree is the text of the
   squeezed document (`serialisation_is_squeezed_text`);
 * (b) the squeezed document is well-formed again (`squeezed_wf`);
 * (c) it has *the same tree*, positions included (`squeezed_same_tree`);
 * (d) hence re-parsing the serialised text succeeds, gives a tree of identical shape
   (`shapeL`: identical up to the positions, which are now the offsets in the squeezed text) and
   serialises to the identical text (`reparse_fixed_point`, both tolerance modes).

Side conditions of (d), all decidable:
 * `envNamesPlainS d` – environment names are written without surrounding blanks
   (`\begin{ a }…\end{a}` is read as environment `a` and serialised `\begin{a}`: the text of the
   squeezed document differs from the serialisation there; kept out, visibly);
 * `Separated none (toksD (squeezeD d))` – the squeezed token list is again a tokenizer output.
   This *follows* from `Separated none (toksD d)` (the source is a tokenizer output) and
   `noBareSizing (toksD d)`: no command-name token is a bare *sizing prefix* (`\left`, `\right`,
   `\big`, `\Big`, `\bigg`, `\Bigg`) – `Gram.separated_squeeze`, used in `reparse_fixed_point_of_source`.
   This is the property's own side condition ("a sizing prefix is immediately followed by its
   delimiter": then prefix and delimiter are one sizing-command token and there is no such
   command-name token). It cannot be dropped: `\left [x]` is read as the command `\left` with an
   optional argument, serialised `\left[x]`, and that is the sizing command `\left[` followed by
   `x]` (`exSizing` below). Everything else survives the removal of the spacers: the dropped
   spacers stand between a name token or a closing `}` / `]` and an opening `{` / `[`; closers
   and openers are single-character tokens whatever surrounds them, a blank run in front ends
   where it ended, and a command name still ends in front of a non-letter.
-/
namespace TexSoup.C16G
open TexSoup TexSoup.Gram

theorem serialisation_is_squeezed_text (d : Doc) (h : canonD d = true) :
    serL (treeD d) = flat (toksD (squeezeD d)) := serL_treeD d h

theorem squeezed_wf (skip : List Str) (d : Doc) (h : WFD skip d = true) :
    WFD skip (squeezeD d) = true := WFD_squeeze skip d h

theorem squeezed_same_tree (d : Doc) : treeD (squeezeD d) = treeD d := treeD_squeeze d

/-- **(d) The fixed point.** Re-parsing the serialised text of the tree of a well-formed
document succeeds, gives a tree of identical shape and the identical serialisation. -/
theorem reparse_fixed_point (tol : Bool) (skip : List Str) (d : Doc)
    (hwf : WFD (Tables.skipEnvNames ++ skip) d = true) (hen : envNamesPlainS d = true)
    (hsq : Separated none (toksD (squeezeD d))) :
    ∃ t2, parse tol skip (serL (treeD d)) = .ok t2 ∧ shapeL t2 = shapeL (treeD d) ∧
      serL t2 = serL (treeD d) := by
  have hcanon := canonD_of_separated_squeeze hwf hsq hen
  have hser := serL_treeD d hcanon
  have hread := document_complete (Tables.skipEnvNames ++ skip) tol (squeezeD d) (WFD_squeeze _ d hwf)
  rw [treeD_squeeze] at hread
  obtain ⟨t2, hp, hs⟩ := parse_text_of_tokens tol skip _ _ hsq hread
  exact ⟨t2, by rw [hser]; exact hp, hs, serL_of_shapeL_eq hs⟩

/-- The property's side condition: no command-name token is a bare sizing prefix. -/
def noBareSizing (ts : List Tok) : Bool :=
  ts.all fun t => !(t.cat == .CommandName && Tables.sizePrefix.contains t.text)

theorem noBareSizing_spec {ts : List Tok} (h : noBareSizing ts = true) :
    ∀ t ∈ ts, t.cat = .CommandName → t.text ∉ Tables.sizePrefix := by
  intro t ht hc hmem
  simp only [noBareSizing, List.all_eq_true] at h
  have := h t ht
  simp [hc] at this
  exact this hmem

/-- **(d) from the source.** The document is well-formed, its tokens are a tokenizer output,
environment names are written plainly and no command name is a bare sizing prefix: then the
serialised text of its tree re-parses to a tree of identical shape and serialises identically. -/
theorem reparse_fixed_point_of_source (tol : Bool) (skip : List Str) (d : Doc)
    (hwf : WFD (Tables.skipEnvNames ++ skip) d = true) (hen : envNamesPlainS d = true)
    (hsep : Separated none (toksD d)) (hsz : noBareSizing (toksD d) = true) :
    ∃ t2, parse tol skip (serL (treeD d)) = .ok t2 ∧ shapeL t2 = shapeL (treeD d) ∧
      serL t2 = serL (treeD d) :=
  reparse_fixed_point tol skip d hwf hen (separated_squeeze hwf hsep (noBareSizing_spec hsz))

/-- If the document was written without droppable spacers (`squeezeD d = d`, in particular
after one round trip) and its tokens carry the running offsets, the second parse is the first
one exactly: same tree, same text. -/
theorem reparse_exact (tol : Bool) (skip : List Str) (d : Doc)
    (hwf : WFD (Tables.skipEnvNames ++ skip) d = true) (hen : envNamesPlainS d = true)
    (hsq : squeezeD d = d) (hsep : Separated none (toksD d)) (hpos : Positioned 0 (toksD d)) :
    parse tol skip (serL (treeD d)) = .ok (treeD d) ∧ serL (treeD d) = flat (toksD d) := by
  have hcanon := canonD_of_separated hwf hsep hen
  have hs := serL_treeD d hcanon
  rw [hsq] at hs
  exact ⟨by rw [hs]; exact C02.document_parses tol skip d hwf hsep hpos, hs⟩

private def t (s : Str) (p : Nat) (c : TC) : Tok := ⟨s, p, c⟩

/-- `\foo [a] {b}x` → tree → `\foo[a]{b}x` -/
def exSpaced : Doc :=
  [.cmd (t [92] 0 .Escape) (t [102, 111, 111] 1 .CommandName)
     [.mk (some (t [32] 4 .MergedSpacer)) (t [91] 5 .BracketBegin) [.leaf (t [97] 6 .Text)] (t [93] 7 .BracketEnd)]
     [.mk (some (t [32] 8 .MergedSpacer)) (t [123] 9 .GroupBegin) [.leaf (t [98] 10 .Text)] (t [125] 11 .GroupEnd)]
     [] [],
   .leaf (t [120] 12 .Text)]

theorem checksSpaced : WFD Tables.skipEnvNames exSpaced = true ∧ envNamesPlainS exSpaced = true ∧
    canonD exSpaced = true ∧ Separated none (toksD (squeezeD exSpaced)) := by decide +kernel

example : flat (toksD exSpaced) = [92, 102, 111, 111, 32, 91, 97, 93, 32, 123, 98, 125, 120] := by
  decide +kernel
example : serL (treeD exSpaced) = [92, 102, 111, 111, 91, 97, 93, 123, 98, 125, 120] := by decide +kernel
example : WFD Tables.skipEnvNames exSpaced = true ∧ envNamesPlainS exSpaced = true ∧
    canonD exSpaced = true ∧ Separated none (toksD (squeezeD exSpaced)) := checksSpaced
example : ∃ t2, parse false [] [92, 102, 111, 111, 91, 97, 93, 123, 98, 125, 120] = .ok t2 ∧
    shapeL t2 = shapeL (treeD exSpaced) ∧ serL t2 = [92, 102, 111, 111, 91, 97, 93, 123, 98, 125, 120] :=
  reparse_fixed_point false [] exSpaced checksSpaced.1 checksSpaced.2.1 checksSpaced.2.2.2

example : ∃ t2, parse true [] (serL (treeD exSpaced)) = .ok t2 ∧
    shapeL t2 = shapeL (treeD exSpaced) ∧ serL t2 = serL (treeD exSpaced) :=
  reparse_fixed_point_of_source true [] exSpaced checksSpaced.1 checksSpaced.2.1 (by decide +kernel)
    (by decide +kernel)

/-- `\begin {a}x\end {a}`: the spacers after `\begin` and `\end` are dropped, too. -/
def exEnv : Doc :=
  [.env (t [92] 0 .Escape) (t sBegin 1 .CommandName)
    ⟨some (t [32] 6 .MergedSpacer), t [123] 7 .GroupBegin, t [97] 8 .Text, t [125] 9 .GroupEnd⟩ [] [] []
    [.leaf (t [120] 10 .Text)]
    (t [92] 11 .Escape) (t sEnd 12 .CommandName)
    ⟨some (t [32] 15 .MergedSpacer), t [123] 16 .GroupBegin, t [97] 17 .Text, t [125] 18 .GroupEnd⟩]

example : WFD Tables.skipEnvNames exEnv = true ∧ envNamesPlainS exEnv = true ∧
    Separated none (toksD exEnv) ∧ Positioned 0 (toksD exEnv) ∧
    Separated none (toksD (squeezeD exEnv)) := by decide +kernel
example : serL (treeD exEnv) =
    [92, 98, 101, 103, 105, 110, 123, 97, 125, 120, 92, 101, 110, 100, 123, 97, 125] := by decide +kernel

/-- **The side condition is needed**: `\left [x]` (a sizing prefix, a spacer, a bracket group).
The document is well-formed and its tokens are a tokenizer output; the squeezed tokens are
*not* (`\left[` is one sizing-command token), and indeed the serialised text `\left[x]`
tokenizes differently. -/
def exSizing : Doc :=
  [.cmd (t [92] 0 .Escape) (t [108, 101, 102, 116] 1 .CommandName)
     [.mk (some (t [32] 5 .MergedSpacer)) (t [91] 6 .BracketBegin) [.leaf (t [120] 7 .Text)] (t [93] 8 .BracketEnd)]
     [] [] []]

example : WFD Tables.skipEnvNames exSizing = true ∧ Separated none (toksD exSizing) ∧
    Positioned 0 (toksD exSizing) ∧ ¬ Separated none (toksD (squeezeD exSizing)) := by decide +kernel
example : noBareSizing (toksD exSizing) = false := by decide +kernel
example : serL (treeD exSizing) = [92, 108, 101, 102, 116, 91, 120, 93] := by decide +kernel
example : tokenize [92, 108, 101, 102, 116, 91, 120, 93] =
    some [t [92] 0 .Escape, t [108, 101, 102, 116, 91] 1 .PunctuationCommandName, t [120] 6 .Text,
      t [93] 7 .BracketEnd] := by decide +kernel

end TexSoup.C16G
