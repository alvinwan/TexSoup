import TexSoupProofs.Properties.TokFacts
import TexSoupProofs.TokLemmas.Shaped
import TexSoupProofs.TokLemmas.SkipPlain
/-!
# The lexical hypotheses of the reader's conservation theorem hold for real token streams

`Hyp skip0 ts` (`TexSoupProofs/Reader/ConsDefs.lean`) bundles four hypotheses on a token list.
Three of them are purely lexical and are discharged here for `ts = tokenize s`:
`shaped` (no side condition), `escOK` and `skipPlain` (for strings without NUL/DEL
characters; `skipPlain` for plain environment names).  Helper lemmas live in
`TexSoupProofs/TokLemmas/Shaped.lean` and `TexSoupProofs/TokLemmas/SkipPlain.lean`, where
`PlainEnvName` is defined.
-/
namespace TexSoup

/-- Every delimiter-category token the tokenizer produces has exactly the text its category
stands for (`\`, `{`, `}`, `[`, `]`, `$`, `$$`, `\(`, `\)`, `\[`, `\]`).  No assumption on the
input: ignored characters are skipped before a token starts, never inside one. -/
theorem tokens_shaped {s : Str} {ts : List Tok} (h : tokenize s = some ts) :
    ∀ t ∈ ts, shapedB t = true :=
  tokLoop_forall (fun _ _ _ _ hp => pass_shaped hp) _ _ _ h

/-- `NUL \ [ $ $ $ DEL { ] \ )`: many delimiter kinds, with ignored characters in between.
(The leading NUL makes `ignore` run after `math_asym_switch` has already declined, so `\[`
comes out as `\` and `[` – both shaped.) -/
example : tokenize [0, 92, 91, 36, 36, 36, 127, 123, 93, 92, 41] = some
    [⟨[92], 1, .Escape⟩, ⟨[91], 2, .BracketBegin⟩, ⟨[36, 36], 3, .DisplayMathSwitch⟩,
     ⟨[36], 5, .MathSwitch⟩, ⟨[123], 7, .GroupBegin⟩, ⟨[93], 8, .BracketEnd⟩,
     ⟨[92, 41], 9, .MathGroupEnd⟩] := by decide +kernel

/-- In a string without ignored characters, the token after an `Escape` token is its own
`strip()` (the `escOK` field of `Hyp`). -/
theorem tokens_escOK {s : Str} {ts : List Tok} (hs : ∀ c ∈ s, isIgnored (catOf c) = false)
    (h : tokenize s = some ts) :
    ∀ pre esc n r, ts = pre ++ esc :: n :: r → esc.cat = .Escape → strip n.text = n.text := by
  intro pre esc n r hsplit hesc
  rcases after_escape hs h pre esc (n :: r) hsplit hesc with h0 | ⟨u, post', hu, _, _, hstrip⟩
  · cases h0
  · cases hu; exact hstrip

/-- `\bf x`: the hypotheses hold, with `esc = \` and `n = bf`. -/
example : (∀ c ∈ ([92, 98, 102, 32, 120] : Str), isIgnored (catOf c) = false) ∧
    tokenize [92, 98, 102, 32, 120] = some
      ([] ++ ⟨[92], 0, .Escape⟩ :: ⟨[98, 102], 1, .CommandName⟩ :: [⟨[32, 120], 3, .Text⟩]) := by
  decide +kernel

/-- For a plain environment name, `\end{name}` at a token boundary of a string without ignored
characters is spelled by exactly five tokens: `\`, `end`, `{`, `name`, `}`. -/
theorem tokens_skipPlain {s : Str} {ts : List Tok} (hs : ∀ c ∈ s, isIgnored (catOf c) = false)
    (h : tokenize s = some ts) {name : Str} (hpl : PlainEnvName name) :
    ∀ pre rest, ts = pre ++ rest → bufStartsWith (endMarker name) rest = true →
      flat (rest.take 5) = endMarker name := by
  rintro pre rest rfl hb
  obtain ⟨f', pt', st', hl, hno⟩ := tokLoop_split h hs
  have hflat : flat rest = st'.rest := ((tokLoop_chain _ _ _ hl).erased).eq_of_no_ignored hno
  obtain ⟨u, hu⟩ := isPrefix_iff.1 hb
  have hrest : st'.rest = endMarker name ++ (u ++ flat (rest.drop (endMarker name).length)) := by
    rw [← hflat, ← List.append_assoc, ← hu, ← flat_append, List.take_append_drop]
  obtain ⟨t1, t2, t3, t4, t5, ts', rfl, e1, _, e2, _, e3, _, e4, _, e5, _⟩ :=
    tokLoop_endMarker hl hrest hpl
  simp [flat, e1, e2, e3, e4, e5, endMarker, strEnd]

/-- `$\end{verbatim}x`: all hypotheses hold at the boundary after the `$` token. -/
example :
    (∀ c ∈ ([36, 92, 101, 110, 100, 123, 118, 101, 114, 98, 97, 116, 105, 109, 125, 120] : Str),
      isIgnored (catOf c) = false) ∧
    PlainEnvName [118, 101, 114, 98, 97, 116, 105, 109] ∧
    tokenize [36, 92, 101, 110, 100, 123, 118, 101, 114, 98, 97, 116, 105, 109, 125, 120] = some
      ([⟨[36], 0, .MathSwitch⟩] ++
        [⟨[92], 1, .Escape⟩, ⟨[101, 110, 100], 2, .CommandName⟩, ⟨[123], 5, .GroupBegin⟩,
         ⟨[118, 101, 114, 98, 97, 116, 105, 109], 6, .Text⟩, ⟨[125], 14, .GroupEnd⟩,
         ⟨[120], 15, .Text⟩]) ∧
    bufStartsWith (endMarker [118, 101, 114, 98, 97, 116, 105, 109])
      [⟨[92], 1, .Escape⟩, ⟨[101, 110, 100], 2, .CommandName⟩, ⟨[123], 5, .GroupBegin⟩,
       ⟨[118, 101, 114, 98, 97, 116, 105, 109], 6, .Text⟩, ⟨[125], 14, .GroupEnd⟩,
       ⟨[120], 15, .Text⟩] = true := by
  decide +kernel

/-- A name of blanks only is plain too (it becomes one `MergedSpacer` token), and so is a name
with a leading blank followed by a letter (`tokenize_spacers` backs off). -/
example : PlainEnvName [32, 32] ∧ PlainEnvName [32, 97] := by decide +kernel

/-- The blank-run condition of `PlainEnvName` cannot be dropped: for the name ` (` (blank, then a
parenthesis) every character is a non-ignored non-stop character, the buffer test succeeds on
`\end{ (}`, but the name is split into a `MergedSpacer` and a `Text` token, so five tokens do not
spell the marker. -/
example :
    (∀ c ∈ ([32, 40] : Str), isStringStop (catOf c) = false ∧ isIgnored (catOf c) = false) ∧
    ¬ PlainEnvName [32, 40] ∧
    tokenize [92, 101, 110, 100, 123, 32, 40, 125] = some
      [⟨[92], 0, .Escape⟩, ⟨[101, 110, 100], 1, .CommandName⟩, ⟨[123], 4, .GroupBegin⟩,
       ⟨[32], 5, .MergedSpacer⟩, ⟨[40], 6, .Text⟩, ⟨[125], 7, .GroupEnd⟩] ∧
    bufStartsWith (endMarker [32, 40])
      [⟨[92], 0, .Escape⟩, ⟨[101, 110, 100], 1, .CommandName⟩, ⟨[123], 4, .GroupBegin⟩,
       ⟨[32], 5, .MergedSpacer⟩, ⟨[40], 6, .Text⟩, ⟨[125], 7, .GroupEnd⟩] = true ∧
    flat ([⟨[92], 0, .Escape⟩, ⟨[101, 110, 100], 1, .CommandName⟩, ⟨[123], 4, .GroupBegin⟩,
       ⟨[32], 5, .MergedSpacer⟩, ⟨[40], 6, .Text⟩, (⟨[125], 7, .GroupEnd⟩ : Tok)].take 5) ≠
      endMarker [32, 40] := by
  decide +kernel

/-- The three lexical fields of `Hyp` hold for the token list of any string without ignored
characters, provided the verbatim-like names in use are plain; only the `envPlain` field
(which talks about the reader) remains a hypothesis. -/
theorem lexical_hyp {s : Str} {ts : List Tok} {skip0 : List Str}
    (hs : ∀ c ∈ s, isIgnored (catOf c) = false) (h : tokenize s = some ts)
    (hskip : ∀ n, memStr n skip0 = true → PlainEnvName n)
    (henv : ∀ pre esc n r, ts = pre ++ esc :: n :: r → esc.cat = .Escape →
      (n.text = sBegin ∨ n.text = sEnd) →
      ∀ g nreq nopt tol mode a0 as rest, readArgs g nreq nopt tol mode r = .ok (a0 :: as, rest) →
        (∃ b p, a0 = .group .brace b p) ∧ strip a0.string = a0.string ∧ noBareA [a0] = true) :
    Hyp skip0 ts where
  shaped := tokens_shaped h
  escOK := tokens_escOK hs h
  envPlain := henv
  skipPlain := fun name hn => tokens_skipPlain hs h (hskip name hn)

/-- The side condition on names holds for the list `parse` puts in force, the built-in names in
front of the user's: the built-in names are plain. -/
theorem skipNames_plain {skip : List Str} (hskip : ∀ n, memStr n skip = true → PlainEnvName n) :
    ∀ n, memStr n (Tables.skipEnvNames ++ skip) = true → PlainEnvName n := by
  intro n hn
  rw [memStr_append, Bool.or_eq_true] at hn
  exact hn.elim (fun h => skipEnvNames_plainEnvName n (memStr_mem h)) (hskip n)

end TexSoup
