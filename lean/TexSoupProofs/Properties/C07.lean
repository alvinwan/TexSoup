import TexSoupProofs.Reader.HypCheck
import TexSoupProofs.Properties.TestVectors
/-!
# C07 – Tolerant mode is a conservative extension that only inserts closers

(a) Whenever strict parsing succeeds, tolerant parsing returns an identical tree and text.
(c) Whenever tolerant parsing succeeds, its output is the input with nothing changed except
inserted closing delimiters (`}`, `]`, `\end{name}`) – and the spacer removal of C08.
(b) "a well-formed document that lost one closer fails strictly and parses tolerantly" is
`C07b.lean` (`lost_closer`: a lost `}` or `\end{name}`, under token-level conditions) and
`C07Brackets.lean` (a lost `]`: false in general; where no `]` follows, proved for the reader
function and for a command at the start of the input).
-/
namespace TexSoup.C07

/-- (a) for every reader function at every fuel. -/
theorem reader_strict_tolerant (f : Nat) : StrictTolerantAt f := strictTolerantAt f

/-- (a) Strict success implies identical tolerant success, for every input and skip list. -/
theorem strict_implies_tolerant (skip : List Str) (s : Str) (es : List Expr)
    (h : parse false skip s = .ok es) : parse true skip s = .ok es :=
  parse_strict_tolerant skip s es h

/-- (c) Tolerant output = token text, minus spacers before openers, plus inserted closers.
`Del true` has exactly these two liberties (constructors `drop` and `ins`). -/
theorem tolerant_only_inserts (skip : List Str) (s : Str) (ts : List Tok) (es : List Expr)
    (ht : tokenize s = some ts) (h : parse true skip s = .ok es)
    (hy : Hyp (Tables.skipEnvNames ++ skip) ts) (hnb : noBareL es = true) :
    Del true ts (serL es) :=
  parse_cons true skip s ts es ht h hy hnb

/-- What may be inserted. -/
theorem inserted_are_closers (s : Str) : IsCloser s ↔ s = [125] ∨ s = [93] ∨ ∃ name, s = endMarker name :=
  Iff.rfl

/-! Non-vacuity: `{a` fails strictly, parses tolerantly, and the output has one inserted `}`. -/

def ex1 : Str := [123, 97]
example : parse false [] ex1 = .error .type := Vec.open_brace_strict
example : ∃ ts es, tokenize ex1 = some ts ∧ parse true [] ex1 = .ok es ∧
    Hyp (Tables.skipEnvNames ++ []) ts ∧ noBareL es = true ∧ serL es = [123, 97, 125] := by
  refine ⟨[⟨[123], 0, .GroupBegin⟩, ⟨[97], 1, .Text⟩], [.group .brace [.text [97] 1] 0],
    by decide +kernel, Vec.open_brace_tolerant,
    Hyp.ofChecks (by decide +kernel) (by decide +kernel) (by decide +kernel) (by decide +kernel),
    by decide +kernel, by decide +kernel⟩
/-- (a) is not vacuous: `\a{b}` parses strictly. -/
example : parse false [] [92, 97, 123, 98, 125] = .ok [.cmd [97] [.group .brace [.text [98] 3] 2] [] 0] :=
  Vec.cmd_group

end TexSoup.C07
