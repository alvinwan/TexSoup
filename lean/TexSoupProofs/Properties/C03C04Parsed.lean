import TexSoupProofs.Properties.C03
import TexSoupProofs.Properties.C04
import TexSoupProofs.Reader.Shape
import TexSoupProofs.Properties.TestVectors
/-!
# C03 / C04 for parsed documents

The path-annotated navigation and search theorems of `C03.lean` and `C04.lean` carry the side
condition `Expr.flatArgs` / `flatArgsL` (no argument has arguments of its own). The reader
returns only such trees (`parse_flatArgs`, `TexSoupProofs/Reader/Shape.lean`: every argument is
a group or a bare `TexCmd(name)`), so for a parsed document the side condition is replaced by
`parse tol skip s = .ok es`. Every theorem of the two files that has such a hypothesis is
instantiated here: at the root, and at every node of the document (the node at any path `p`,
`getAtRoot es p = some x`; a top-level element is the node at `[.body j]`).
-/
namespace TexSoup

theorem flatArgs_getAt {e : Expr} (h : e.flatArgs = true) {p : Path} {x : Expr}
    (hx : getAt e p = some x) : x.flatArgs = true := by
  induction p generalizing e with
  | nil => cases hx; exact h
  | cons st p ih =>
    simp only [getAt] at hx
    split at hx
    · next y hs => exact ih (flatArgs_step h hs) hx
    · cases hx

theorem parse_flatArgs_root {tol : Bool} {skip : List Str} {s : Str} {es : List Expr}
    (h : parse tol skip s = .ok es) : (rootWrap es).flatArgs = true :=
  flatArgs_rootWrap.trans (parse_flatArgs h)

theorem parse_flatArgs_node {tol : Bool} {skip : List Str} {s : Str} {es : List Expr}
    (h : parse tol skip s = .ok es) {p : Path} {x : Expr} (hx : getAtRoot es p = some x) :
    x.flatArgs = true :=
  flatArgs_getAt (parse_flatArgs_root h) hx

theorem parse_flatArgs_mem {tol : Bool} {skip : List Str} {s : Str} {es : List Expr}
    (h : parse tol skip s = .ok es) {x : Expr} (hx : x ∈ es) : x.flatArgs = true :=
  flatArgsL_mem (parse_flatArgs h) hx

end TexSoup

namespace TexSoup.C04

variable {tol : Bool} {skip : List Str} {s : Str} {es : List Expr}

theorem contents_map_snd_parsed (h : parse tol skip s = .ok es) {p : Path} {x : Expr}
    (hx : getAtRoot es p = some x) : (contentsP x).map Prod.snd = contentsOf x :=
  contents_map_snd (parse_flatArgs_node h hx)

theorem contents_map_snd_root_parsed (h : parse tol skip s = .ok es) :
    (contentsP (rootWrap es)).map Prod.snd = contentsOf (rootWrap es) :=
  contents_map_snd (parse_flatArgs_root h)

theorem desc_map_snd_parsed (h : parse tol skip s = .ok es) {p : Path} {x : Expr}
    (hx : getAtRoot es p = some x) : (descP [] x).map Prod.snd = descOf x :=
  desc_map_snd (parse_flatArgs_node h hx)

theorem desc_map_snd_root_parsed (h : parse tol skip s = .ok es) :
    (descRootP es).map Prod.snd = descRoot es :=
  desc_map_snd_root (parse_flatArgs h)

end TexSoup.C04

namespace TexSoup.C03

variable {tol : Bool} {skip : List Str} {s : Str} {es : List Expr}

theorem findAll_name_occ_parsed {n : Str} (hn : plainName n = true)
    (h : parse tol skip s = .ok es) {p : Path} {x : Expr} (hx : getAtRoot es p = some x) :
    (findAll (.name n) x).Perm ((occ n x).map Prod.snd) ∧ ((occ n x).map Prod.fst).Nodup :=
  findAll_name_occ hn (parse_flatArgs_node h hx)

/-- Searching the document by name returns exactly the occurrences of the name, each once. -/
theorem findAll_name_occ_root_parsed {n : Str} (hn : plainName n = true)
    (h : parse tol skip s = .ok es) :
    (findAllRoot (.name n) es).Perm ((occRoot n es).map Prod.snd) ∧
      ((occRoot n es).map Prod.fst).Nodup :=
  findAll_name_occ_root hn (parse_flatArgs h)

theorem findAll_name_order_parsed {n : Str} (hn : plainName n = true)
    (h : parse tol skip s = .ok es) {p : Path} {x : Expr} (hx : getAtRoot es p = some x) :
    findAll (.name n) x = ((descP [] x).filter (fun px => px.2.named n)).map Prod.snd :=
  findAll_name_order hn (parse_flatArgs_node h hx)

/-- Searching the document by name returns the nodes of that name in document order. -/
theorem findAll_name_order_root_parsed {n : Str} (hn : plainName n = true)
    (h : parse tol skip s = .ok es) :
    findAllRoot (.name n) es = ((descRootP es).filter (fun px => px.2.named n)).map Prod.snd := by
  rw [findAll_root]
  exact findAll_name_order hn (parse_flatArgs_root h)

theorem findAll_absent_parsed {n : Str} (hn : plainName n = true)
    (h : parse tol skip s = .ok es) {p : Path} {x : Expr} (hx : getAtRoot es p = some x)
    (habs : ∀ q y, q ≠ [] → getAt x q = some y → y.isText = false → y.name ≠ n) :
    findAll (.name n) x = [] :=
  findAll_absent hn (parse_flatArgs_node h hx) habs

theorem findAll_absent_root_parsed {n : Str} (hn : plainName n = true)
    (h : parse tol skip s = .ok es)
    (habs : ∀ q y, q ≠ [] → getAtRoot es q = some y → y.isText = false → y.name ≠ n) :
    findAllRoot (.name n) es = [] := by
  rw [findAll_root]
  exact findAll_absent hn (parse_flatArgs_root h) habs

/-- `\a{\b}[c]` -/
def exDoc : Str := [92, 97, 123, 92, 98, 125, 91, 99, 93]

def exTree : List Expr :=
  [.cmd [97] [.group .brace [.cmd [98] [] [] 3] 2, .group .bracket [.text [99] 7] 6] [] 0]

theorem exDoc_parse : parse false [] exDoc = .ok exTree := by decide +kernel

example : parse false [] exDoc = .ok exTree := exDoc_parse
example : plainName [98] = true := by decide
example : getAtRoot exTree [.body 0] =
    some (.cmd [97] [.group .brace [.cmd [98] [] [] 3] 2, .group .bracket [.text [99] 7] 6] [] 0) :=
  rfl
example : findAllRoot (.name [98]) exTree = [.cmd [98] [] [] 3] := by decide +kernel
example : occRoot [98] exTree = [([.body 0, .arg 0 0], .cmd [98] [] [] 3)] := by decide +kernel
example : (findAllRoot (.name [98]) exTree).Perm ((occRoot [98] exTree).map Prod.snd) :=
  (findAll_name_occ_root_parsed (n := [98]) (by decide) exDoc_parse).1

/-- A bare command as mandatory argument, `\def\a b` (signature (2, 0)): the argument list is
a bare `TexCmd` and a made-up group, both without arguments. -/
example : parse false [] [92, 100, 101, 102, 92, 97, 32, 98] = .ok
    [.cmd [100, 101, 102] [.cmd [97] [] [] 4, .group .brace [.text [32, 98] (-1)] (-1)] [] 0] :=
  Vec.def_bare

end TexSoup.C03
