import TexSoupProofs.Properties.C01Grammar
import TexSoupModel.GrammarRecognize
/-!
# What a certificate certifies (round trip)

The driver request `cert` looks for a grammar document `d` for a source string and evaluates
Boolean conditions on it. `C02.cert_sound` gives the meaning of `toks ∧ wf`; here the meaning of
`toks ∧ wf ∧ canon ∧ adj`: the source parses to `treeD d` and the tree prints as the text of the
tokens (C01 for this input). `adjacentS` is the Boolean form of `squeezeD d = d`,
`positionedB` of `Positioned`.
-/
namespace TexSoup.Gram
open TexSoup

theorem NameArg.squeeze_of_sp {n : NameArg} (h : n.sp = none) : n.squeeze = n := by
  cases n; simp_all [NameArg.squeeze]

theorem squeeze_of_adjacent_all :
    (∀ e : Elem, adjacent e = true → squeeze e = e) ∧
    (∀ a : Arg, adjacentArg a = true → squeezeArg a = a) ∧
    (∀ es : List Elem, adjacentS es = true → squeezeS es = es) ∧
    (∀ as : List Arg, adjacentA as = true → squeezeA as = as) := by
  apply induct
  · intros; simp [squeeze]
  · intro o b c ib h
    simp only [adjacent] at h
    simp [squeeze, ib h]
  · intro k o b c ib h
    simp only [adjacent] at h
    simp [squeeze, ib h]
  · intro e n a1 a2 a3 a4 i1 i2 i3 i4 h
    simp only [adjacent, Bool.and_eq_true] at h
    simp [squeeze, i1 h.1.1.1, i2 h.1.1.2, i3 h.1.2, i4 h.2]
  · intro e n a1 a2 a3 a4 b i1 i2 i3 i4 ib h
    simp only [adjacent, Bool.and_eq_true] at h
    simp [squeeze, i1 h.1.1.1.1, i2 h.1.1.1.2, i3 h.1.1.2, i4 h.1.2, ib h.2]
  · intro e bg nm a2 a3 a4 b e2 en nm2 i2 i3 i4 ib h
    simp only [adjacent, Bool.and_eq_true, Option.isNone_iff_eq_none] at h
    obtain ⟨⟨⟨⟨⟨h1, h2⟩, h3⟩, h4⟩, h5⟩, h6⟩ := h
    simp [squeeze, NameArg.squeeze_of_sp h1, NameArg.squeeze_of_sp h6, i2 h2, i3 h3, i4 h4, ib h5]
  · intro e bg nm a2 a3 a4 vb e5 i2 i3 i4 h
    simp only [adjacent, Bool.and_eq_true, Option.isNone_iff_eq_none] at h
    obtain ⟨⟨⟨h1, h2⟩, h3⟩, h4⟩ := h
    simp [squeeze, NameArg.squeeze_of_sp h1, i2 h2, i3 h3, i4 h4]
  · intro sp o b c ib h
    simp only [adjacentArg, Bool.and_eq_true, Option.isNone_iff_eq_none] at h
    simp [squeezeArg, h.1, ib h.2]
  · intros; simp
  · intro e es ie ies _ h
    simp only [adjacentS, Bool.and_eq_true] at h
    simp [ie h.1, ies h.2]
  · intros; simp
  · intro a as ia ias h
    simp only [adjacentA, Bool.and_eq_true] at h
    simp [ia h.1, ias h.2]

theorem squeezeArg_of_adjacent : ∀ a : Arg, adjacentArg a = true → squeezeArg a = a :=
  squeeze_of_adjacent_all.2.1
theorem squeezeA_of_adjacent : ∀ as : List Arg, adjacentA as = true → squeezeA as = as :=
  squeeze_of_adjacent_all.2.2.2

theorem positioned_of_positionedB : ∀ (p : Nat) (ts : List Tok), positionedB p ts = true → Positioned p ts
  | _, [], _ => trivial
  | p, t :: r, h => by
      simp only [positionedB, Bool.and_eq_true, beq_iff_eq] at h
      exact ⟨h.1, positioned_of_positionedB _ r h.2⟩

end TexSoup.Gram

namespace TexSoup.C01G
open TexSoup TexSoup.Gram

/-- **Meaning of a certificate with `canon` and `adj`**: the source parses to `treeD d`, and the
tree prints as the text of the document's tokens – which are the tokens of the source. -/
theorem cert_sound (tol : Bool) (skip : List Str) (s : Str) (ts : List Tok) (d : Doc)
    (ht : tokenize s = some ts) (htoks : (toksD d == ts) = true)
    (hwf : WFD (Tables.skipEnvNames ++ skip) d = true)
    (hcanon : canonD d = true) (hadj : adjacentS d = true) :
    parse tol skip s = .ok (treeD d) ∧ serL (treeD d) = flat ts := by
  have h : toksD d = ts := eq_of_beq htoks
  refine ⟨C02.cert_sound tol skip s ts d ht htoks hwf, ?_⟩
  rw [serL_treeD d hcanon, squeezeD, squeeze_of_adjacent_all.2.2.1 d hadj, h]

end TexSoup.C01G
