import TexSoupProofs.Complete.CommentsSep
import TexSoupProofs.Complete.ParseText
import TexSoupProofs.TokLemmas.SepFacts
import TexSoupProofs.ExprInduct
import TexSoupProofs.Properties.TestVectors
/-!
# C10 for documents of the grammar – the tree around a comment does not depend on its payload

`mapCommentsD f d` replaces the text of every comment leaf of `d` by `f` of it. Proved for all
documents of the grammar and all `f`:

 * the document stays well-formed (`payload_keeps_wf`): no frame condition looks at the text
   of a leaf;
 * its tree is the tree of `d` with exactly the comment leaves relabelled
   (`tree_of_substituted`): same nodes, names, argument groups, nesting and positions –
   `mapCommentTextsL f` touches nothing but the text nodes that are comments;
 * hence two payloads give trees that coincide once the comment leaves are blanked
   (`payload_irrelevant`), and the reader returns exactly these trees
   (`read_substituted`, `parse_substituted`).

At the level of `Expr` a comment leaf is recognised by its text: it starts with a comment
character (`isCommentText`). Side conditions (decidable, true of tokenizer output –
`separated_marked`): a leaf token is a `Comment` token iff its text starts with `%`
(`Marked`), and no raw verbatim body starts with one (`verbOK`; there a `%` is no comment, and
the whole body is one text node).

For the substituted document to be the token list of its own text, the new comment token must
satisfy the tokenizer's condition `TokOK` for comments (`tokOK_comment`): `%`, a payload without
end-of-line character, followed by an end-of-line character or the end of input. If every new
payload is such a comment (`goodPayload`), the substituted token list is a tokenizer output
whenever the original one is (`Gram.separated_mapComments`: every decision about the tokens in
front of a comment is taken at its `%` at the latest, and the token after it starts with the end
of line), which gives the statement from source text to tree: `comment_payload_does_not_matter`.
-/
namespace TexSoup.C10G
open TexSoup TexSoup.Gram

def isCommentText : Str → Bool
  | c :: _ => catOf c == .Comment
  | [] => false

mutual
def mapCommentTexts (f : Str → Str) : Expr → Expr
  | .text s p => if isCommentText s then .text (f s) p else .text s p
  | .cmd n a b p => .cmd n (mapCommentTextsL f a) (mapCommentTextsL f b) p
  | .nenv n a b p => .nenv n (mapCommentTextsL f a) (mapCommentTextsL f b) p
  | .math k b p => .math k (mapCommentTextsL f b) p
  | .group k b p => .group k (mapCommentTextsL f b) p
def mapCommentTextsL (f : Str → Str) : List Expr → List Expr
  | [] => []
  | e :: es => mapCommentTexts f e :: mapCommentTextsL f es
end

@[simp] theorem mapCommentTextsL_nil (f : Str → Str) : mapCommentTextsL f [] = [] := by
  simp [mapCommentTextsL]
@[simp] theorem mapCommentTextsL_cons (f : Str → Str) (e : Expr) (es : List Expr) :
    mapCommentTextsL f (e :: es) = mapCommentTexts f e :: mapCommentTextsL f es := by
  simp [mapCommentTextsL]

theorem mapCommentTextsL_append (f : Str → Str) (a b : List Expr) :
    mapCommentTextsL f (a ++ b) = mapCommentTextsL f a ++ mapCommentTextsL f b := by
  induction a with
  | nil => simp
  | cons e es ih => simp [ih]

def Marked (ts : List Tok) : Prop := ∀ t ∈ ts, (t.cat == .Comment) = isCommentText t.text

mutual
def verbOK : Elem → Bool
  | .leaf _ => true
  | .group _ b _ => verbOKS b
  | .math _ _ b _ => verbOKS b
  | .cmd _ _ a1 a2 a3 a4 => verbOKA a1 && verbOKA a2 && verbOKA a3 && verbOKA a4
  | .item _ _ a1 a2 a3 a4 b => verbOKA a1 && verbOKA a2 && verbOKA a3 && verbOKA a4 && verbOKS b
  | .env _ _ _ a2 a3 a4 b _ _ _ => verbOKA a2 && verbOKA a3 && verbOKA a4 && verbOKS b
  | .venv _ _ _ a2 a3 a4 vb _ => verbOKA a2 && verbOKA a3 && verbOKA a4 && !isCommentText (flat vb)
def verbOKS : List Elem → Bool
  | [] => true
  | e :: es => verbOK e && verbOKS es
def verbOKArg : Arg → Bool
  | .mk _ _ b _ => verbOKS b
def verbOKA : List Arg → Bool
  | [] => true
  | a :: as => verbOKArg a && verbOKA as
end

theorem marked_append {a b : List Tok} : Marked (a ++ b) ↔ Marked a ∧ Marked b :=
  List.forall_mem_append

theorem marked_cons {t : Tok} {ts : List Tok} :
    Marked (t :: ts) ↔ (t.cat == .Comment) = isCommentText t.text ∧ Marked ts :=
  List.forall_mem_cons

theorem tree_mapComments_all (f : Str → Str) :
    (∀ e : Elem, Marked (toks e) → verbOK e = true →
      tree (mapComments f e) = mapCommentTexts f (tree e)) ∧
    (∀ (a : Arg) (k : GKind), Marked (toksArg a) → verbOKArg a = true →
      treeArg k (mapCommentsArg f a) = mapCommentTexts f (treeArg k a)) ∧
    (∀ es : List Elem, Marked (toksS es) → verbOKS es = true →
      trees (mapCommentsS f es) = mapCommentTextsL f (trees es)) ∧
    (∀ (as : List Arg) (k : GKind), Marked (toksA as) → verbOKA as = true →
      treesA k (mapCommentsA f as) = mapCommentTextsL f (treesA k as)) := by
  apply induct
  · intro t hm _
    have h := (marked_cons.1 hm).1
    cases hc : t.cat == TC.Comment <;> rw [hc] at h <;>
      simp [mapComments, mapCommentTok, hc, tree, mapCommentTexts, ← h]
  · intro o b c ib hm hv
    simp only [toks, marked_cons, marked_append] at hm
    simp only [verbOK] at hv
    simp only [mapComments, tree, mapCommentTexts, ib hm.2.1 hv]
  · intro k o b c ib hm hv
    simp only [toks, marked_cons, marked_append] at hm
    simp only [verbOK] at hv
    simp only [mapComments, tree, mapCommentTexts, ib hm.2.1 hv]
  · intro e n a1 a2 a3 a4 i1 i2 i3 i4 hm hv
    simp only [toks, marked_cons, marked_append] at hm
    simp only [verbOK, Bool.and_eq_true] at hv
    simp only [mapComments, tree, mapCommentTexts, mapCommentTextsL_append, mapCommentTextsL_nil,
      i1 _ hm.2.2.1 hv.1.1.1,
      i2 _ hm.2.2.2.1 hv.1.1.2, i3 _ hm.2.2.2.2.1 hv.1.2, i4 _ hm.2.2.2.2.2 hv.2]
  · intro e n a1 a2 a3 a4 b i1 i2 i3 i4 ib hm hv
    simp only [toks, marked_cons, marked_append] at hm
    simp only [verbOK, Bool.and_eq_true] at hv
    simp only [mapComments, tree, mapCommentTexts, mapCommentTextsL_append, i1 _ hm.2.2.1 hv.1.1.1.1,
      i2 _ hm.2.2.2.1 hv.1.1.1.2, i3 _ hm.2.2.2.2.1 hv.1.1.2, i4 _ hm.2.2.2.2.2.1 hv.1.2,
      ib hm.2.2.2.2.2.2 hv.2]
  · intro e bg nm a2 a3 a4 b e2 en nm2 i2 i3 i4 ib hm hv
    simp only [toks, marked_cons, marked_append] at hm
    simp only [verbOK, Bool.and_eq_true] at hv
    simp only [mapComments, tree, mapCommentTexts, mapCommentTextsL_append, i2 _ hm.2.2.2.1 hv.1.1.1,
      i3 _ hm.2.2.2.2.1 hv.1.1.2, i4 _ hm.2.2.2.2.2.1 hv.1.2, ib hm.2.2.2.2.2.2.1 hv.2]
  · intro e bg nm a2 a3 a4 vb e5 i2 i3 i4 hm hv
    simp only [toks, marked_cons, marked_append] at hm
    simp only [verbOK, Bool.and_eq_true, Bool.not_eq_true'] at hv
    simp only [mapComments, tree, mapCommentTexts, mapCommentTextsL_append, mapCommentTextsL_cons,
      mapCommentTextsL_nil, hv.2, Bool.false_eq_true, if_false, i2 _ hm.2.2.2.1 hv.1.1.1,
      i3 _ hm.2.2.2.2.1 hv.1.1.2, i4 _ hm.2.2.2.2.2.1 hv.1.2]
  · intro sp o b c ib k hm hv
    simp only [toksArg, marked_cons, marked_append] at hm
    simp only [verbOKArg] at hv
    simp only [mapCommentsArg, treeArg, mapCommentTexts, ib hm.2.2.1 hv]
  · intros; simp
  · intro e es ie ies _ hm hv
    simp only [toksS_cons, marked_append] at hm
    simp only [verbOKS, Bool.and_eq_true] at hv
    simp only [mapCommentsS, trees_cons, mapCommentTextsL_cons, ie hm.1 hv.1, ies hm.2 hv.2]
  · intros; simp
  · intro a as ia ias k hm hv
    simp only [toksA_cons, marked_append] at hm
    simp only [verbOKA, Bool.and_eq_true] at hv
    simp only [mapCommentsA, treesA_cons, mapCommentTextsL_cons, ia k hm.1 hv.1, ias k hm.2 hv.2]

theorem tree_mapComments (f : Str → Str) : ∀ e : Elem, Marked (toks e) → verbOK e = true →
    tree (mapComments f e) = mapCommentTexts f (tree e) := (tree_mapComments_all f).1
theorem treeArg_mapComments (f : Str → Str) (k : GKind) : ∀ a : Arg, Marked (toksArg a) →
    verbOKArg a = true → treeArg k (mapCommentsArg f a) = mapCommentTexts f (treeArg k a) :=
  fun a => (tree_mapComments_all f).2.1 a k
theorem treesA_mapComments (f : Str → Str) (k : GKind) : ∀ as : List Arg, Marked (toksA as) →
    verbOKA as = true → treesA k (mapCommentsA f as) = mapCommentTextsL f (treesA k as) :=
  fun as => (tree_mapComments_all f).2.2.2 as k

/-- No frame condition looks at a comment's payload. -/
theorem payload_keeps_wf (f : Str → Str) (skip : List Str) (d : Doc) (h : WFD skip d = true) :
    WFD skip (mapCommentsD f d) = true := WFD_mapComments f skip d h

/-- **The tree of the substituted document is the tree of the document with exactly the
comment leaves relabelled.** -/
theorem tree_of_substituted (f : Str → Str) (d : Doc) (hm : Marked (toksD d)) (hv : verbOKS d = true) :
    treeD (mapCommentsD f d) = mapCommentTextsL f (treeD d) :=
  (tree_mapComments_all f).2.2.1 d hm hv

/-- … and this is what the reader returns (token level, both tolerance modes). -/
theorem read_substituted (f : Str → Str) (skip : List Str) (tol : Bool) (d : Doc)
    (hwf : WFD skip d = true) (hm : Marked (toksD d)) (hv : verbOKS d = true) :
    readTex (parseFuel (toksD (mapCommentsD f d))) skip tol (toksD (mapCommentsD f d)) =
      .ok (mapCommentTextsL f (treeD d)) := by
  rw [← tree_of_substituted f d hm hv]
  exact document_complete skip tol _ (payload_keeps_wf f skip d hwf)

theorem mapCommentTexts_comp_all (f g : Str → Str)
    (hf : ∀ s, isCommentText s = true → isCommentText (f s) = true) :
    (∀ e : Expr, mapCommentTexts g (mapCommentTexts f e) = mapCommentTexts (g ∘ f) e) ∧
    (∀ es : List Expr, mapCommentTextsL g (mapCommentTextsL f es) = mapCommentTextsL (g ∘ f) es) := by
  apply Expr.induct
  · intro s p
    by_cases h : isCommentText s = true
    · simp [mapCommentTexts, h, hf s h]
    · simp [mapCommentTexts, h]
  · intro n a b p ia ib; simp [mapCommentTexts, ia, ib]
  · intro n a b p ia ib; simp [mapCommentTexts, ia, ib]
  · intro k b p ib; simp [mapCommentTexts, ib]
  · intro k b p ib; simp [mapCommentTexts, ib]
  · simp
  · intro e es ie ies; simp [ie, ies]

theorem mapCommentTexts_comp (f g : Str → Str) (hf : ∀ s, isCommentText s = true → isCommentText (f s) = true) :
    ∀ e : Expr, mapCommentTexts g (mapCommentTexts f e) = mapCommentTexts (g ∘ f) e :=
  (mapCommentTexts_comp_all f g hf).1
theorem mapCommentTextsL_comp (f g : Str → Str) (hf : ∀ s, isCommentText s = true → isCommentText (f s) = true) :
    ∀ es : List Expr, mapCommentTextsL g (mapCommentTextsL f es) = mapCommentTextsL (g ∘ f) es :=
  (mapCommentTexts_comp_all f g hf).2

/-- **Two payloads, one tree around them**: blank the comment leaves (replace each by a bare
`%`) and the trees of the two substituted documents are equal – every other node, name,
argument group, nesting and position coincides. -/
theorem payload_irrelevant (f g : Str → Str) (d : Doc) (hm : Marked (toksD d)) (hv : verbOKS d = true)
    (hf : ∀ s, isCommentText s = true → isCommentText (f s) = true)
    (hg : ∀ s, isCommentText s = true → isCommentText (g s) = true) :
    mapCommentTextsL (fun _ => [37]) (treeD (mapCommentsD f d)) =
      mapCommentTextsL (fun _ => [37]) (treeD (mapCommentsD g d)) := by
  rw [tree_of_substituted f d hm hv, tree_of_substituted g d hm hv,
    mapCommentTextsL_comp f _ hf, mapCommentTextsL_comp g _ hg]
  rfl

/-- What a comment token must look like: `%`, then no end-of-line character. -/
def goodPayload : Str → Bool
  | c :: body => catOf c == .Comment && body.all (fun x => catOf x != .EndOfLine)
  | [] => false

/-- The tokenizer's condition for the new comment token: it is followed by an end-of-line
character or by nothing. -/
theorem tokOK_comment (prev : Option Ch) (s : Str) (p : Nat) (w : Str) (hs : goodPayload s = true)
    (hw : ∀ c ∈ w.head?, catOf c = .EndOfLine) : TokOK prev ⟨s, p, .Comment⟩ w := by
  cases s with
  | nil => simp [goodPayload] at hs
  | cons c body =>
    simp only [goodPayload, Bool.and_eq_true, beq_iff_eq, List.all_eq_true, bne_iff_ne, ne_eq] at hs
    show TokOK' prev (c :: body) TC.Comment w
    simp only [TokOK', TxtMany]
    exact ⟨hs.1, hs.2, hw⟩

theorem goodPayload_isCommentText {s : Str} (h : goodPayload s = true) : isCommentText s = true := by
  cases s with
  | nil => simp [goodPayload] at h
  | cons c body =>
    simp only [goodPayload, Bool.and_eq_true] at h
    simpa [isCommentText] using h.1

/-- **From source text**: if the substituted token list is a tokenizer output, its text parses
to the relabelled tree (up to the positions, which move with the length of the payloads). -/
theorem parse_substituted (f : Str → Str) (skip : List Str) (tol : Bool) (d : Doc)
    (hwf : WFD (Tables.skipEnvNames ++ skip) d = true) (hm : Marked (toksD d)) (hv : verbOKS d = true)
    (hsep : Separated none (toksD (mapCommentsD f d))) :
    ∃ t2, parse tol skip (flat (toksD (mapCommentsD f d))) = .ok t2 ∧
      shapeL t2 = shapeL (mapCommentTextsL f (treeD d)) := by
  rw [← tree_of_substituted f d hm hv]
  exact document_parses_shape tol skip _ (payload_keeps_wf f _ d hwf) hsep

/-- A token is a `Comment` token iff its text starts with a comment character: the category of a
token fixes the category of its first character (`TokOK.head`). -/
theorem tokOK_marked {prev : Option Ch} {t : Tok} {w : Str} (h : TokOK prev t w) :
    (t.cat == .Comment) = isCommentText t.text := by
  obtain ⟨c0, r, ht, hc⟩ := h.head
  rw [ht, isCommentText]
  cases hcat : t.cat <;> rw [hcat] at hc <;> simp only [HeadCat] at hc
  case MergedSpacer => rcases hc with hc | hc <;> rw [hc] <;> rfl
  case CommandName => rw [hc.1]; rfl
  case PunctuationCommandName => rw [hc.1]; rfl
  case Text =>
    cases hcc : catOf c0 == CC.Comment with
    | false => rfl
    | true => rw [beq_iff_eq.1 hcc] at hc; cases hc.1
  all_goals rw [hc]; rfl

theorem separated_marked {prev : Option Ch} {ts : List Tok} (h : Separated prev ts) : Marked ts := by
  induction ts generalizing prev with
  | nil => intro t ht; cases ht
  | cons u r ih =>
    obtain ⟨_, hu, hr⟩ := h
    intro t ht
    rcases List.mem_cons.1 ht with rfl | ht
    · exact tokOK_marked hu
    · exact ih hr t ht

theorem commentPayload_of_good (f : Str → Str) (hf : ∀ s, goodPayload (f s) = true) : CommentPayload f := by
  intro s
  have h := hf s
  cases hfs : f s with
  | nil => rw [hfs] at h; simp [goodPayload] at h
  | cons c body =>
    rw [hfs] at h
    simp only [goodPayload, Bool.and_eq_true, beq_iff_eq, List.all_eq_true, bne_iff_ne, ne_eq] at h
    exact ⟨body, by rw [comment_char h.1], h.2⟩

/-- **C10, from source text to tree.** Take a well-formed document whose tokens are a tokenizer
output, and replace the comments by arbitrary other comments (`%`, then anything but an end of
line – braces, brackets, `$`, `\begin`, `\end` …). The text of the new document parses, in both
tolerance modes, to the tree of the old one with exactly the comment leaves relabelled (the
positions shift with the lengths of the payloads: `shapeL`). -/
theorem comment_payload_does_not_matter (f : Str → Str) (hf : ∀ s, goodPayload (f s) = true)
    (skip : List Str) (tol : Bool) (d : Doc) (hwf : WFD (Tables.skipEnvNames ++ skip) d = true)
    (hsep : Separated none (toksD d)) (hv : verbOKS d = true) :
    Separated none (toksD (mapCommentsD f d)) ∧
    ∃ t2, parse tol skip (flat (toksD (mapCommentsD f d))) = .ok t2 ∧
      shapeL t2 = shapeL (mapCommentTextsL f (treeD d)) :=
  have hs := separated_mapComments f (commentPayload_of_good f hf) d hsep
  ⟨hs, parse_substituted f skip tol d hwf (separated_marked hsep) hv hs⟩

private def t (s : Str) (p : Nat) (c : TC) : Tok := ⟨s, p, c⟩

/-- `\foo[%a⏎]{x}%b` – a comment inside an optional argument, one at the end. -/
def exDoc : Doc :=
  [.cmd (t [92] 0 .Escape) (t [102, 111, 111] 1 .CommandName)
     [.mk none (t [91] 4 .BracketBegin)
        [.leaf (t [37, 97] 5 .Comment), .leaf (t [10] 7 .MergedSpacer)] (t [93] 8 .BracketEnd)]
     [.mk none (t [123] 9 .GroupBegin) [.leaf (t [120] 10 .Text)] (t [125] 11 .GroupEnd)] [] [],
   .leaf (t [37, 98] 12 .Comment)]

/-- the payload `%` ↦ `%}{$\end` – closers, openers, a math switch, a backslash -/
def nasty (_ : Str) : Str := [37, 125, 123, 36, 92, 101, 110, 100]

theorem checksDoc : WFD Tables.skipEnvNames exDoc = true ∧ verbOKS exDoc = true ∧
    Separated none (toksD exDoc) ∧ Separated none (toksD (mapCommentsD nasty exDoc)) ∧
    goodPayload (nasty []) = true := by
  decide +kernel

example : WFD Tables.skipEnvNames exDoc = true ∧ verbOKS exDoc = true ∧ Separated none (toksD exDoc) ∧
    Separated none (toksD (mapCommentsD nasty exDoc)) ∧ goodPayload (nasty []) = true :=
  checksDoc
example : treeD (mapCommentsD nasty exDoc) =
    [.cmd [102, 111, 111]
      [.group .bracket [.text [37, 125, 123, 36, 92, 101, 110, 100] 5, .text [10] 7] 4,
       .group .brace [.text [120] 10] 9] [] 0,
     .text [37, 125, 123, 36, 92, 101, 110, 100] 12] := by decide +kernel
example : treeD (mapCommentsD nasty exDoc) = mapCommentTextsL nasty (treeD exDoc) :=
  tree_of_substituted nasty exDoc (separated_marked checksDoc.2.2.1) checksDoc.2.1
example : ∃ t2, parse false [] (flat (toksD (mapCommentsD nasty exDoc))) = .ok t2 ∧
    shapeL t2 = shapeL (mapCommentTextsL nasty (treeD exDoc)) :=
  (comment_payload_does_not_matter nasty (fun _ => checksDoc.2.2.2.2) [] false exDoc checksDoc.1
    checksDoc.2.2.1 checksDoc.2.1).2

/-- `verbOK` is needed: in `\begin{verbatim}%x\end{verbatim}` the body is one text node that
looks like a comment but is none. -/
def exVerb : Doc :=
  [.venv (t [92] 0 .Escape) (t sBegin 1 .CommandName)
     ⟨none, t [123] 6 .GroupBegin, t [118, 101, 114, 98, 97, 116, 105, 109] 7 .Text, t [125] 15 .GroupEnd⟩
     [] [] [] [t [37, 120] 16 .Comment]
     [t [92] 18 .Escape, t sEnd 19 .CommandName, t [123] 22 .GroupBegin,
      t [118, 101, 114, 98, 97, 116, 105, 109] 23 .Text, t [125] 31 .GroupEnd]]
example : WFD Tables.skipEnvNames exVerb = true ∧ verbOKS exVerb = false := by decide +kernel
example : treeD (mapCommentsD nasty exVerb) = treeD exVerb := by decide +kernel

end TexSoup.C10G
