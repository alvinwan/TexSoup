import TexSoupProofs.BufLemmas
/-!
# C20 – the look-ahead buffer is a faithful cursor over its sequence

Model: `TexSoupModel/Buf.lean` (`BufState = (queue, i, rest)`, lazily filled).
Specification: `TexSoupProofs/BufSpec.lean` (`Spec = (items, idx)`, a plain list with an index).
`abs (queue, i, rest) = (queue ++ rest, i)`; `Inv` = "everything before the cursor is
materialised unless the iterator is exhausted".

The refinement needs **no** restriction to in-range moves: the specification's index is a bare
natural number and `forward` past the end / `backward` past the start behave in the model as
they do on the list (`scope_keeps_cursor_in_range` shows the property's in-range operations
never take the index out of `[0, length]`).
-/
namespace TexSoup
namespace C20
open Buf

/-- Every public operation, from every reachable-shaped state (`Inv`), with any argument:
the model's output is the list+index output, `abs` commutes, and `Inv` is kept. -/
theorem step_refines (s : BufState) (op : BufOp) (hinv : Inv s) :
    Spec.step (abs s) op = (abs (step s op).1, (step s op).2) ∧ Inv (step s op).1 := by
  obtain ⟨h1, h2, h3⟩ := step_refines_aux s op hinv
  exact ⟨by rw [h1, h2], h3⟩

example : Inv ⟨[[97], [98, 99]], 1, [[100]]⟩ ∧ Inv ⟨[[97]], 4, []⟩ := by decide +kernel

/-- `Inv` is not decoration: in a state that violates it (unreachable, see `run_refines`) indexing
before the cursor skips the fill loop and misses an element the list has. -/
example : ¬ Inv ⟨[], 2, [[97], [98], [99]]⟩ ∧
    (step ⟨[], 2, [[97], [98], [99]]⟩ (.getItem 0)).2 = .indexError ∧
    (Spec.step (abs ⟨[], 2, [[97], [98], [99]]⟩) (.getItem 0)).2 = .elem [97] := by decide +kernel

/-- The same for every history (any length), from any state with `Inv`. -/
theorem run_refines_from (s : BufState) (ops : List BufOp) (hinv : Inv s) :
    Spec.run (abs s) ops = (abs (run s ops).1, (run s ops).2) ∧ Inv (run s ops).1 := by
  induction ops generalizing s with
  | nil => exact ⟨rfl, hinv⟩
  | cons op ops ih =>
    obtain ⟨h1, h2⟩ := step_refines s op hinv
    obtain ⟨h3, h4⟩ := ih (step s op).1 h2
    simp only [Spec.run, run, h1, h3]
    exact ⟨trivial, h4⟩

example : Inv ⟨[[97, 98]], 0, [[99], [100]]⟩ := by decide +kernel

/-- Every history on a fresh buffer over any sequence `src` (token-backed: `src` are the token
texts) produces the outputs and the final cursor of the list `src` with index 0. -/
theorem run_refines (src : List Str) (ops : List BufOp) :
    Spec.run ⟨src, 0⟩ ops = (abs (run (init src) ops).1, (run (init src) ops).2) ∧
      Inv (run (init src) ops).1 :=
  run_refines_from (init src) ops (init_inv src)

example : (run (init [[97, 98], [99]]) [.next, .peek (-1), .forward 3, .next]).2 =
    [.elem [97, 98], .elem [97, 98], .joined [99], .stopIteration] := by decide +kernel

/-- What the differential harness observes – every output together with the cursor after the
operation – is what the list with index 0 gives, for every history on a fresh buffer. -/
theorem trace_refines (src : List Str) (ops : List BufOp) :
    trace (init src) ops = Spec.trace ⟨src, 0⟩ ops := by
  have key : ∀ (ops : List BufOp) (s : BufState), Inv s →
      trace s ops = Spec.trace (abs s) ops := by
    intro ops
    induction ops with
    | nil => intro s _; rfl
    | cons op ops ih =>
      intro s hinv
      obtain ⟨h1, h2⟩ := step_refines s op hinv
      simp only [trace, Spec.trace, h1, ih _ h2]
      rfl
  exact key ops (init src) (init_inv src)

example : trace (init [[97, 98], [99]]) [.forward 1, .peek 5, .backward 2] =
    [(.joined [97, 98], 1), (.none, 1), (.assertionError, 1)] := by decide +kernel

/-- String-backed buffers (`Buffer('abc')`): the elements are the characters. -/
theorem run_refines_string (str : Str) (ops : List BufOp) :
    Spec.run ⟨str.map fun c => [c], 0⟩ ops =
        (abs (run (ofString str) ops).1, (run (ofString str) ops).2) ∧
      Inv (run (ofString str) ops).1 :=
  run_refines (str.map fun c => [c]) ops

example : (run (ofString [97, 98, 99]) [.startswith [97, 98], .forwardUntil [[99]], .position]).2 =
    [.bool true, .joined [97, 98], .nat 2] := by decide +kernel

/-- Peeking, slicing, indexing and the tests (and `num_forward_until`, which moves and comes
back) leave the sequence and the cursor as they were. -/
theorem observers_keep_cursor (s : BufState) (op : BufOp) (hinv : Inv s)
    (hop : Spec.IsObserver op) :
    abs (step s op).1 = abs s :=
  (congrArg Prod.fst (step_refines s op hinv).1).symm.trans (Spec.step_observer hop (abs s))

example : Inv ⟨[[97]], 1, [[98], [99]]⟩ ∧ Spec.IsObserver (.peekRange (-1) 2) ∧
    (step ⟨[[97]], 1, [[98], [99]]⟩ (.peekRange (-1) 2)).1 ≠ ⟨[[97]], 1, [[98], [99]]⟩ := by
  decide +kernel

/-- Reading or peeking past the end (or before the start) reports exhaustion:
`next` raises `StopIteration` and stays, `peek` gives `None`, `hasNext` is `False`, slices and
range peeks give the (shorter) part of the window that exists. -/
theorem past_end_reports_exhaustion (s : BufState) (hinv : Inv s) :
    (total s ≤ s.i → (step s .next).2 = .stopIteration ∧ abs (step s .next).1 = abs s) ∧
    (∀ j : Int, (s.i : Int) + j < 0 ∨ (total s : Int) ≤ (s.i : Int) + j →
      (step s (.peek j)).2 = .none) ∧
    (∀ n : Int, (s.i : Int) + (n - 1) < 0 ∨ (total s : Int) ≤ (s.i : Int) + (n - 1) →
      (step s (.hasNext n)).2 = .bool false) ∧
    (∀ a b, (step s (.slice a b)).2 = .joined (join (pySlice (s.queue ++ s.rest) a b))) ∧
    (∀ a b : Int, (step s (.peekRange a b)).2 =
      .joined (join (pySlice (s.queue ++ s.rest) (some ((s.i : Int) + a).toNat)
        (some ((s.i : Int) + b).toNat)))) := by
  have hat : ∀ j : Int, (s.i : Int) + j < 0 ∨ (total s : Int) ≤ (s.i : Int) + j →
      Spec.at? (abs s) j = none := by
    intro j hj
    rw [Spec.at?_abs]
    split
    · rfl
    · rw [List.getElem?_eq_none_iff, ← total_eq]; omega
  refine ⟨fun h => ?_, fun j hj => ?_, fun n hn => ?_, fun a b => ?_, fun a b => ?_⟩
  · obtain ⟨hext, ⟨x, hx, _⟩ | ⟨_, ho, hi, _⟩⟩ := next_post s
    · exact absurd (lt_total_of_get hx) (Nat.not_lt.mpr h)
    · exact ⟨ho, show abs (next s).1 = abs s by rw [abs_eq, abs_eq, hext.items_eq, hi]⟩
  · have h1 := (step_refines s (.peek j) hinv).1
    rw [Spec.step_peek, hat j hj] at h1
    exact (congrArg Prod.snd h1).symm
  · have h1 := (step_refines s (.hasNext n) hinv).1
    rw [Spec.step_hasNext, hat (n - 1) hn] at h1
    exact (congrArg Prod.snd h1).symm
  · exact (congrArg Prod.snd (step_refines s (.slice a b) hinv).1).symm
  · exact (congrArg Prod.snd (step_refines s (.peekRange a b) hinv).1).symm

example : Inv ⟨[[97]], 3, []⟩ ∧ total ⟨[[97]], 3, []⟩ ≤ 3 ∧
    Inv ⟨[], 0, [[97], [98]]⟩ ∧ ((0 : Int) + 5 < 0 ∨ ((2 : Nat) : Int) ≤ (0 : Int) + 5) := by
  decide +kernel

/-- No operation fails in any other way: the model's loops never run out of fuel, `IndexError`
comes only from indexing (`b[k]`) at or past the end, `AssertionError` only from moving back
past the start. -/
theorem only_documented_errors (s : BufState) (op : BufOp) (hinv : Inv s) :
    (step s op).2 ≠ .fuel ∧
    ((step s op).2 = .indexError → ∃ k, op = .getItem k ∧ total s ≤ k) ∧
    ((step s op).2 = .assertionError →
      ∃ j : Int, (s.i : Int) < j ∧ (op = .backward j ∨ op = .forward (-j))) := by
  have h := congrArg Prod.snd (step_refines s op hinv).1
  simp only at h
  rw [← h]
  have hlen : (abs s).items.length = total s := by simp [abs, total]
  have hidx : (abs s).idx = s.i := rfl
  rw [← hlen, ← hidx]
  exact Spec.errors (abs s) op

example : Inv ⟨[[97]], 1, [[98]]⟩ ∧ (step ⟨[[97]], 1, [[98]]⟩ (.backward 2)).2 = .assertionError ∧
    (step ⟨[[97]], 1, [[98]]⟩ (.getItem 2)).2 = .indexError := by decide +kernel

/-- Laziness is unobservable: two buffers over the same sequence at the same cursor, however
much of it each has materialised, answer every history identically. -/
theorem laziness_unobservable (s₁ s₂ : BufState) (h₁ : Inv s₁) (h₂ : Inv s₂)
    (habs : abs s₁ = abs s₂) (ops : List BufOp) :
    (run s₁ ops).2 = (run s₂ ops).2 ∧ abs (run s₁ ops).1 = abs (run s₂ ops).1 := by
  have e₁ := (run_refines_from s₁ ops h₁).1
  have e₂ := (run_refines_from s₂ ops h₂).1
  rw [habs, e₂] at e₁
  exact ⟨(congrArg Prod.snd e₁).symm, (congrArg Prod.fst e₁).symm⟩

example : Inv ⟨[], 0, [[97], [98], [99]]⟩ ∧ Inv ⟨[[97], [98]], 0, [[99]]⟩ ∧
    abs ⟨[], 0, [[97], [98], [99]]⟩ = abs ⟨[[97], [98]], 0, [[99]]⟩ ∧
    (⟨[], 0, [[97], [98], [99]]⟩ : BufState) ≠ ⟨[[97], [98]], 0, [[99]]⟩ := by decide +kernel

/-- In-scope operations (`Spec.InScope`: moves that stay inside the list, everything else
unrestricted) never change the list and keep the index within `[0, length]`, so the
specification's treatment of an index past the end is not exercised inside the property. -/
theorem scope_keeps_cursor_in_range (sp : Spec) (op : BufOp) (hsp : sp.idx ≤ sp.items.length)
    (hop : Spec.InScope sp op) :
    (Spec.step sp op).1.items = sp.items ∧ (Spec.step sp op).1.idx ≤ sp.items.length := by
  cases op with
  | next =>
    unfold Spec.step
    dsimp only
    split
    · next h => exact ⟨rfl, (List.getElem?_eq_some_iff.mp h).1⟩
    · exact ⟨rfl, hsp⟩
  | forward j =>
    unfold Spec.InScope at hop
    unfold Spec.step
    dsimp only [Spec.fwd, Spec.bwd] at hop ⊢
    split
    · split <;> exact ⟨rfl, by dsimp only; omega⟩
    · exact ⟨rfl, by dsimp only; omega⟩
  | backward j =>
    unfold Spec.InScope at hop
    unfold Spec.step
    dsimp only [Spec.fwd, Spec.bwd] at hop ⊢
    split
    · exact ⟨rfl, by dsimp only; omega⟩
    · split <;> exact ⟨rfl, by dsimp only; omega⟩
  | forwardUntil c =>
    have h := (List.takeWhile_sublist (l := sp.items.drop sp.idx)
      (fun x => !x.isEmpty && !memStr x c)).length_le
    rw [List.length_drop] at h
    exact ⟨rfl, show sp.idx + (Spec.scan c (sp.items.drop sp.idx)).length ≤ _ by
      unfold Spec.scan; omega⟩
  | _ =>
    rw [Spec.step_observer]
    · exact ⟨rfl, hsp⟩
    · trivial

example : (⟨[[97], [98]], 1⟩ : Spec).idx ≤ (⟨[[97], [98]], 1⟩ : Spec).items.length ∧
    Spec.InScope ⟨[[97], [98]], 1⟩ (.forward 1) ∧ Spec.InScope ⟨[[97], [98]], 1⟩ (.backward 1) ∧
    ¬ Spec.InScope ⟨[[97], [98]], 1⟩ (.forward 2) := by decide +kernel

namespace Legacy

/-- The defect repaired in `peek` (F10): before the repair a peek before the start fell
through to Python's negative indexing on the *materialised* queue, so two buffers over the
same sequence at the same cursor – here a fresh `Buffer('abc')` and the same buffer after
`peek(2)` – answered `peek(-1)` differently (`None` vs `'c'`). -/
theorem peek_leaks_laziness :
    ∃ s₁ s₂ : BufState, Inv s₁ ∧ Inv s₂ ∧ abs s₁ = abs s₂ ∧
      (Buf.Legacy.peek s₁ (-1)).2 ≠ (Buf.Legacy.peek s₂ (-1)).2 ∧
      (Buf.peek s₁ (-1)).2 = (Buf.peek s₂ (-1)).2 :=
  ⟨ofString [97, 98, 99], (step (ofString [97, 98, 99]) (.peek 2)).1, by decide +kernel⟩

example : (Buf.Legacy.peek (ofString [97, 98, 99]) (-1)).2 = .none ∧
    (Buf.Legacy.peek (step (ofString [97, 98, 99]) (.peek 2)).1 (-1)).2 = .elem [99] := by decide +kernel

end Legacy

end C20
end TexSoup
