import TexSoupProofs.Sound.EnvNamesCheck
import TexSoupProofs.Properties.C16Grammar
import TexSoupProofs.Properties.C19
/-!
# C02, converse direction – the grammar is exhaustive: every representable strict parse is the
tree of a well-formed document; and C16 for all strictly parsing inputs

Completeness (`C02.tree_mirrors_document`) says: the reader returns `treeD d` on the tokens of a
well-formed document `d`. Here the converse (`TexSoupProofs/Sound`, an invariant of all twelve
reader functions by induction over their successful runs): whatever `read_tex` returns **in strict mode** on a
token list is `treeD d` for a well-formed `d` with exactly these tokens, provided the input is
*representable* (`grammar_exhaustive`):

 * on the result tree, decidable (`Gram.repL .nonMath es`):
   – no made-up arguments (the certificate reasons `made-up-argument`,
     `bare-command-as-argument`);
   – a command with a fixed signature has exactly `required` brace groups (this only excludes a
     command cut off by the end of input, `\def` at the end; the continuation argument
     `\section{a}[b]` – an optional argument read in the second pass of `read_args` – is part of
     the grammar, `Gram.runOK`);
 * on the tokens: no backslash at the very end (`NoTrailingEscape`); the argument after
   `\begin` / `\end` is `{`, one text token, `}` (`EnvNamesSimple`; reason
   `env-name-several-tokens`); the token after a backslash is its own `strip()`, and `\end{name}`
   of a verbatim-like environment is spelled by five tokens – both hold for tokenizer output
   (`Gram.shyp_of_tokenize`).

Every frame condition of `Gram.WF` – `runOK`, `startOK`, `itemStop`, `noEarly`, the names of
`\begin`/`\end`, the look-ahead clause – is *implied* by the reader's success under these side
conditions: the grammar is not stricter than the reader anywhere else. (The look-ahead clause –
`\begin{equation}\in{x}\end{equation}`: the group after the argument-less command is first read
in math mode by the look-ahead of `read_env` – follows from the success of that very look-ahead,
`Gram.peekCond_of_peek`: math-mode results are non-math-mode results, `readArg_math_nonMath`,
and math-mode well-formedness implies non-math-mode well-formedness, `Gram.WFs_mle`.)

From source text: `parse_sound`. Payoff: **C16 for all strictly parsing inputs**
(`C16.reparse_fixed_point_all`): the serialised text re-parses to a tree of the same shape and
the same text; what remains as side conditions are the property's own (no bare sizing prefix
as a command name, finding F4b: `\begin{ a }`).
-/
namespace TexSoup.C02
open TexSoup TexSoup.Gram

/-- **Exhaustiveness of the grammar (token level).** -/
theorem grammar_exhaustive (skip : List Str) (ts : List Tok) (es : List Expr)
    (h : readTex (parseFuel ts) skip false ts = .ok es) (hy : SHyp skip ts)
    (hrep : repL .nonMath es = true) :
    ∃ d : Doc, toksD d = ts ∧ WFD skip d = true ∧ treeD d = es := by
  obtain ⟨d, h1, h2, h3⟩ := readTex_sound skip _ ts es h hy hrep
  exact ⟨d, h1, h3, h2⟩

/-- The invariant behind it, for every reader function and every fuel. -/
theorem reader_sound (skip0 : List Str) (f : Nat) : SoundAt skip0 f := soundAt skip0 f

/-- **Exhaustiveness in tolerant mode, where tolerance was not needed**: if the strict read of the
same tokens succeeds, too (no closer had to be invented), the *tolerant* result is the tree of a
well-formed document with exactly these tokens. -/
theorem grammar_exhaustive_tolerant (skip : List Str) (ts : List Tok) (es : List Expr)
    (h : readTex (parseFuel ts) skip true ts = .ok es)
    (hstrict : ∃ es', readTex (parseFuel ts) skip false ts = .ok es')
    (hy : SHyp skip ts) (hrep : repL .nonMath es = true) :
    ∃ d : Doc, toksD d = ts ∧ WFD skip d = true ∧ treeD d = es := by
  obtain ⟨es', hs⟩ := hstrict
  have := readTex_strict_tolerant _ _ _ _ hs
  rw [h] at this
  cases this
  exact grammar_exhaustive skip ts es hs hy hrep

/-- **Exhaustiveness from source text**: a strictly parsing, representable input *is* (the text
of) a well-formed document of the grammar, and its tree is the document's tree. -/
theorem parse_sound (skip : List Str) (s : Str) (es : List Expr)
    (hs : ∀ c ∈ s, isIgnored (catOf c) = false) (h : parse false skip s = .ok es)
    (hskip : ∀ n, memStr n skip = true → PlainEnvName n)
    (henv : ∀ ts, tokenize s = some ts → EnvNamesSimple ts ∧ NoTrailingEscape ts)
    (hrep : repL .nonMath es = true) :
    ∃ d : Doc, tokenize s = some (toksD d) ∧ flat (toksD d) = s ∧
      WFD (Tables.skipEnvNames ++ skip) d = true ∧ treeD d = es := by
  obtain ⟨ts, ht⟩ := tokenize_total s
  rw [parse_eq_readTex ht] at h
  have hy : SHyp (Tables.skipEnvNames ++ skip) ts :=
    shyp_of_tokenize hs ht (skipNames_plain hskip) (henv ts ht).1 (henv ts ht).2
  obtain ⟨d, h1, h2, h3⟩ := grammar_exhaustive _ ts es h hy hrep
  exact ⟨d, by rw [h1]; exact ht, by rw [h1]; exact tokenize_lossless hs ht, h2, h3⟩

/-- … and completeness closes the circle: on such an input both tolerance modes return the
same tree, here by way of the grammar. The conclusion needs `h` alone
(`C07.strict_implies_tolerant`); the other hypotheses are those of `parse_sound`. -/
theorem strict_parse_is_tolerant_parse (skip : List Str) (s : Str) (es : List Expr)
    (hs : ∀ c ∈ s, isIgnored (catOf c) = false) (h : parse false skip s = .ok es)
    (hskip : ∀ n, memStr n skip = true → PlainEnvName n)
    (henv : ∀ ts, tokenize s = some ts → EnvNamesSimple ts ∧ NoTrailingEscape ts)
    (hrep : repL .nonMath es = true) : parse true skip s = .ok es := by
  obtain ⟨d, ht, _, hwf, htr⟩ := parse_sound skip s es hs h hskip henv hrep
  rw [← htr]
  exact parse_complete true skip s d ht hwf

/-- without `\begin`/`\end` the condition on environment names is vacuous -/
theorem envNamesSimple_of_noEnv {ts : List Tok} (h : noEnvB ts = true) : EnvNamesSimple ts :=
  fun pre esc n r he hesc _ _ _ _ _ _ hn =>
    absurd (hn.elim (fun h => .inl h.1) (fun h => .inr h.1)) (noEnvB_sound ts h pre esc n r he hesc)

theorem noTrailingEscape_of_last {ts : List Tok} (h : ∀ t ∈ ts.getLast?, t.cat ≠ .Escape) :
    NoTrailingEscape ts := by
  intro pre esc he
  subst he
  exact h esc (by simp)

def noTrailingEscapeB (ts : List Tok) : Bool :=
  match ts.getLast? with
  | some t => t.cat != .Escape
  | none => true

theorem noTrailingEscape_of_check {ts : List Tok} (h : noTrailingEscapeB ts = true) : NoTrailingEscape ts := by
  apply noTrailingEscape_of_last
  intro t ht
  unfold noTrailingEscapeB at h
  rw [Option.mem_def.mp ht] at h
  simpa using h

/-- **Exhaustiveness with evaluable side conditions only**: a Boolean check of the tree
(`repL`) and two Boolean checks of the tokens (`envNamesShapeB`: after `\begin`/`\end` an
optional spacer, `{`, one token, `}`; `noTrailingEscapeB`). -/
theorem parse_sound_of_checks (skip : List Str) (s : Str) (es : List Expr)
    (hs : ∀ c ∈ s, isIgnored (catOf c) = false) (h : parse false skip s = .ok es)
    (hskip : ∀ n, memStr n skip = true → PlainEnvName n)
    (hchk : ∀ ts, tokenize s = some ts → envNamesShapeB ts = true ∧ noTrailingEscapeB ts = true)
    (hrep : repL .nonMath es = true) :
    ∃ d : Doc, tokenize s = some (toksD d) ∧ flat (toksD d) = s ∧
      WFD (Tables.skipEnvNames ++ skip) d = true ∧ treeD d = es :=
  parse_sound skip s es hs h hskip
    (fun ts hts => ⟨envNamesSimple_of_shape (hchk ts hts).1, noTrailingEscape_of_check (hchk ts hts).2⟩) hrep

end TexSoup.C02

namespace TexSoup.C16
open TexSoup TexSoup.Gram

/-- **C16 for all strictly parsing inputs.** If `s` (free of NUL/DEL) parses strictly to a
representable tree, no command name is a bare sizing prefix and environment names are written
plainly after `\begin`, then the serialised text re-parses – in both tolerance modes – to a
tree of the same shape that serialises to the same text. -/
theorem reparse_fixed_point_all (tol : Bool) (skip : List Str) (s : Str) (es : List Expr)
    (hs : ∀ c ∈ s, isIgnored (catOf c) = false) (h : parse false skip s = .ok es)
    (hskip : ∀ n, memStr n skip = true → PlainEnvName n)
    (henv : ∀ ts, tokenize s = some ts → EnvNamesSimple ts ∧ NoTrailingEscape ts ∧ BeginPlain ts ∧
      C16G.noBareSizing ts = true)
    (hrep : repL .nonMath es = true) :
    ∃ t2, parse tol skip (serL es) = .ok t2 ∧ shapeL t2 = shapeL es ∧ serL t2 = serL es := by
  obtain ⟨d, ht, _, hwf, htr⟩ := C02.parse_sound skip s es hs h hskip
    (fun ts hts => ⟨(henv ts hts).1, (henv ts hts).2.1⟩) hrep
  obtain ⟨_, _, hbp, hsz⟩ := henv _ ht
  have hsep : Separated none (toksD d) := (tokenize_separated hs ht).1
  have hen : envNamesPlainS d = true := envPlainS_of_tokens d _ _ _ _ hwf hbp
  rw [← htr]
  exact C16G.reparse_fixed_point_of_source tol skip d hwf hen hsep hsz

end TexSoup.C16

namespace TexSoup.C02
open TexSoup TexSoup.Gram

/-! ## Non-vacuity -/

/-- `\foo [a] {b}x` -/
def srcSpaced2 : Str := [92, 102, 111, 111, 32, 91, 97, 93, 32, 123, 98, 125, 120]
def treeSpaced2 : List Expr :=
  [.cmd [102, 111, 111] [.group .bracket [.text [97] 6] 5, .group .brace [.text [98] 10] 9] [] 0, .text [120] 12]

example : repL .nonMath treeSpaced2 = true := by decide
example : parse false [] srcSpaced2 = .ok treeSpaced2 →
    ∃ d : Doc, tokenize srcSpaced2 = some (toksD d) ∧ flat (toksD d) = srcSpaced2 ∧
      WFD (Tables.skipEnvNames ++ []) d = true ∧ treeD d = treeSpaced2 := fun h =>
  parse_sound [] srcSpaced2 treeSpaced2 (by decide +kernel) h (by intro n hn; simp [memStr] at hn)
    (by
      intro ts hts
      -- `srcSpaced2` is the text `srcSpaced` of the document `exSpaced`
      cases Option.some.inj (tokSpaced.symm.trans hts)
      exact ⟨envNamesSimple_of_noEnv (by decide +kernel), noTrailingEscape_of_last (by decide +kernel)⟩)
    (by decide +kernel)

/-- `\begin{itemize}\item a $x$\item[b] c\end{itemize}` (the document `exList` of C02): all side
conditions evaluate to true. -/
example : repL .nonMath (treeD exList) = true ∧ envNamesShapeB (toksD exList) = true ∧
    noTrailingEscapeB (toksD exList) = true := by decide +kernel

/-- The side conditions on the tree bite: `\def` at the end of input parses (no arguments) but
is not representable. `\in{x}` in the body of `equation` is (the look-ahead case). -/
example : repL .nonMath [.cmd [100, 101, 102] [] [] 0] = false := by decide
example : repL .nonMath [.nenv [101, 113, 117, 97, 116, 105, 111, 110] []
    [.cmd [105, 110] [] [] 16, .group .brace [.text [120] 20] 19] 0] = true := by decide
example : repL .nonMath [.nenv [97] []
    [.cmd [105, 110] [] [] 9, .group .brace [.text [120] 13] 12] 0] = true := by decide

/-! ### The look-ahead case: `\begin{equation}\in{x}\end{equation}` -/

private def tk (s : Str) (p : Nat) (c : TC) : Tok := ⟨s, p, c⟩
private def sEquation : Str := [101, 113, 117, 97, 116, 105, 111, 110]

/-- `\begin{equation}\in{x}\end{equation}`: the group `{x}` is first read (and dropped) by the
look-ahead of `read_env`, in math mode, as an argument of `\in`. -/
def exEqn : Doc :=
  [.env (tk [92] 0 .Escape) (tk sBegin 1 .CommandName)
    ⟨none, tk [123] 6 .GroupBegin, tk sEquation 7 .Text, tk [125] 15 .GroupEnd⟩ [] [] []
    [.cmd (tk [92] 16 .Escape) (tk [105, 110] 17 .CommandName) [] [] [] [],
     .group (tk [123] 19 .GroupBegin) [.leaf (tk [120] 20 .Text)] (tk [125] 21 .GroupEnd)]
    (tk [92] 22 .Escape) (tk sEnd 23 .CommandName)
    ⟨none, tk [123] 26 .GroupBegin, tk sEquation 27 .Text, tk [125] 35 .GroupEnd⟩]

def srcEqn : Str := [92, 98, 101, 103, 105, 110, 123, 101, 113, 117, 97, 116, 105, 111, 110, 125, 92,
  105, 110, 123, 120, 125, 92, 101, 110, 100, 123, 101, 113, 117, 97, 116, 105, 111, 110, 125]

example : tokenize srcEqn = some (toksD exEqn) := by decide +kernel
example : WFD Tables.skipEnvNames exEqn = true := by decide +kernel
/-- all side conditions of `parse_sound_of_checks` hold for it (the tree is representable) -/
example : repL .nonMath (treeD exEqn) = true ∧ envNamesShapeB (toksD exEqn) = true ∧
    noTrailingEscapeB (toksD exEqn) = true := by decide +kernel

/-! ### A continuation argument of a fixed signature: `\section{a}[b][c]` -/

/-- `\section{a}[b][c]`: `[b]` is the optional argument of `\section` (signature `(1, 1)`), read
in the second pass of `read_args` directly behind the brace group; `[c]` stays text. -/
def exSection : Doc :=
  [.cmd (tk [92] 0 .Escape) (tk [115, 101, 99, 116, 105, 111, 110] 1 .CommandName) []
     [.mk none (tk [123] 8 .GroupBegin) [.leaf (tk [97] 9 .Text)] (tk [125] 10 .GroupEnd)]
     [.mk none (tk [91] 11 .BracketBegin) [.leaf (tk [98] 12 .Text)] (tk [93] 13 .BracketEnd)] [],
   .leaf (tk [91] 14 .BracketBegin), .leaf (tk [99] 15 .Text), .leaf (tk [93] 16 .BracketEnd)]

def srcSection : Str := [92, 115, 101, 99, 116, 105, 111, 110, 123, 97, 125, 91, 98, 93, 91, 99, 93]

theorem tokSection : tokenize srcSection = some (toksD exSection) := by decide +kernel
theorem wfSection : WFD Tables.skipEnvNames exSection = true := by decide +kernel

example : tokenize srcSection = some (toksD exSection) := tokSection
example : WFD Tables.skipEnvNames exSection = true := wfSection
example : parse false [] srcSection =
    .ok [.cmd [115, 101, 99, 116, 105, 111, 110]
          [.group .brace [.text [97] 9] 8, .group .bracket [.text [98] 12] 11] [] 0,
         .text [91] 14, .text [99] 15, .text [93] 16] :=
  parse_complete false [] srcSection exSection tokSection wfSection
example : repL .nonMath (treeD exSection) = true ∧ envNamesShapeB (toksD exSection) = true ∧
    noTrailingEscapeB (toksD exSection) = true := by decide +kernel
/-- with a spacer in front the bracket is not an argument -/
example : WFD Tables.skipEnvNames
  [.cmd (tk [92] 0 .Escape) (tk [115, 101, 99, 116, 105, 111, 110] 1 .CommandName) []
     [.mk none (tk [123] 8 .GroupBegin) [.leaf (tk [97] 9 .Text)] (tk [125] 10 .GroupEnd)]
     [.mk (some (tk [32] 11 .MergedSpacer)) (tk [91] 12 .BracketBegin) [.leaf (tk [98] 13 .Text)]
       (tk [93] 14 .BracketEnd)] []] = false := by decide

end TexSoup.C02
