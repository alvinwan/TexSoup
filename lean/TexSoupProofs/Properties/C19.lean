import TexSoupProofs.TokLemmas
/-!
# Property C19 — categorisation and tokenization partition the input

"Every character of any string, for every Unicode code point, is assigned exactly one
category and its own index.  The resulting tokens partition the input: their texts
concatenated in order reproduce the input exactly (apart from NUL/DEL characters, which may
only be dropped), no token is empty, and every token records the offset at which its text
starts."

All statements quantify over arbitrary lists of natural numbers (so over every code point,
including lone surrogates) and have no length bound.
-/
namespace TexSoup

/-- `categorize` pairs every character with its own index and its category, in order. -/
theorem categorize_spec (s : Str) :
    categorize s = List.zipWith (fun c i => (c, i, catOf c)) s (List.range s.length) := by
  rw [categorize, categorizeFrom_eq, List.range_eq_range']

/-- `categorize` preserves the length: no character is dropped or duplicated. -/
theorem categorize_length (s : Str) : (categorize s).length = s.length :=
  categorizeFrom_length 0 s

/-- The `i`-th entry of `categorize s` is `(s[i], i, catOf s[i])`. -/
theorem categorize_getElem (s : Str) (i : Nat) (h : i < s.length) :
    (categorize s)[i]'(by rw [categorize_length]; exact h) = (s[i], i, catOf s[i]) := by
  have := categorizeFrom_getElem 0 s i h
  simpa [categorize] using this

/-- The generated category table has no duplicate keys, so the "first match" taken by the
loop over `CATEGORY_CODES` is the only match. -/
theorem catTable_keys_nodup : (Tables.catTable.map Prod.fst).Nodup :=
  (pairwise_of_linked (r := Nat.blt) (fun _ _ _ h1 h2 => by simp only [Nat.blt_eq] at *; omega)
    (by decide +kernel)).imp fun h => by simp only [Nat.blt_eq] at h; omega

/-- The generator found no character listed under two categories. -/
theorem catMultiCount_zero : Tables.catMultiCount = 0 := by decide

/-- A character listed in the table gets exactly the listed category; every other code point
is `Other`.  Hence every code point has exactly one category. -/
theorem catOf_unique (c : Ch) :
    (∀ v, (c, v) ∈ Tables.catTable → catOf c = v) ∧
    (c ∉ Tables.catTable.map Prod.fst → catOf c = .Other) :=
  ⟨fun _ h => lookupD_of_mem catTable_keys_nodup h _, fun h => lookupD_of_not_mem h _⟩

/-- `next_token` always makes progress, so the fuel `tokFuel s` suffices: the tokenizer
terminates normally on every input. -/
theorem tokenize_total (s : Str) : ∃ ts, tokenize s = some ts :=
  tokLoop_total (tokFuel s) none ⟨none, 0, s⟩ (by simp [tokFuel])

/-- The concatenated token texts are the input with some ignored (NUL/DEL) characters
deleted, and nothing else changed. -/
theorem tokenize_partition {s : Str} {ts : List Tok} (h : tokenize s = some ts) :
    Erased s (flat ts) :=
  (tokenize_chain h).erased

/-- Instance of the hypothesis `tokenize s = some ts` shared by the theorems about token lists:
`NUL \ a { % DEL }`; the leading NUL is dropped, the DEL inside the comment is kept. -/
example : tokenize [0, 92, 97, 123, 37, 127, 125] = some
    [⟨[92], 1, .Escape⟩, ⟨[97], 2, .CommandName⟩, ⟨[123], 3, .GroupBegin⟩,
     ⟨[37, 127, 125], 4, .Comment⟩] := by decide +kernel

/-- The concatenated token texts form a sublist (subsequence) of the input. -/
theorem tokenize_sublist {s : Str} {ts : List Tok} (h : tokenize s = some ts) :
    (flat ts).Sublist s :=
  (tokenize_partition h).sublist

/-- Every non-ignored character of the input survives into some token. -/
theorem tokenize_keeps {s : Str} {ts : List Tok} (h : tokenize s = some ts) {c : Ch}
    (hc : c ∈ s) (hi : isIgnored (catOf c) = false) : c ∈ flat ts :=
  (tokenize_partition h).mem_of_not_ignored hc hi

/-- Without NUL/DEL characters the tokens reproduce the input exactly. -/
theorem tokenize_lossless {s : Str} {ts : List Tok}
    (hs : ∀ c ∈ s, isIgnored (catOf c) = false) (h : tokenize s = some ts) : flat ts = s :=
  (tokenize_partition h).eq_of_no_ignored hs

/-- Instance of both hypotheses of `tokenize_lossless`: `\ a { % }`. -/
example : (∀ c ∈ ([92, 97, 123, 37, 125] : Str), isIgnored (catOf c) = false) ∧
    tokenize [92, 97, 123, 37, 125] = some
      [⟨[92], 0, .Escape⟩, ⟨[97], 1, .CommandName⟩, ⟨[123], 2, .GroupBegin⟩,
       ⟨[37, 125], 3, .Comment⟩] := by decide +kernel

/-- No token is empty. -/
theorem token_nonempty {s : Str} {ts : List Tok} (h : tokenize s = some ts) :
    ∀ t ∈ ts, t.text ≠ [] :=
  (tokenize_chain h).nonempty

/-- Every token's text is the slice of the source that starts at its recorded offset. -/
theorem token_offsets {s : Str} {ts : List Tok} (h : tokenize s = some ts) :
    ∀ t ∈ ts, t.text = (s.drop t.pos).take t.text.length := by
  have := (tokenize_chain h).slice [] rfl
  simpa using this

/-- Tokens do not overlap and appear in source order. -/
theorem token_offsets_increasing {s : Str} {ts : List Tok} (h : tokenize s = some ts) :
    ts.Pairwise (fun a b => a.pos + a.text.length ≤ b.pos) :=
  (tokenize_chain h).ordered.2

/-- Every token lies inside the source. -/
theorem token_offsets_bounded {s : Str} {ts : List Tok} (h : tokenize s = some ts) :
    ∀ t ∈ ts, t.pos + t.text.length ≤ s.length := by
  have := (tokenize_chain h).bounded
  simpa using this

end TexSoup
