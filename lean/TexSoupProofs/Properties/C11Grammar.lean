import TexSoupProofs.Complete.Main
import TexSoupProofs.Properties.TestVectors
/-!
# C11 for documents of the grammar – verbatim-like environments are opaque

For every environment whose name is in the skip list *in force* – a built-in name or a name the
user passed as `skip_envs`, they are treated alike (`skip_list_in_force`) – the raw tokens
between `\begin{name}…` and the first `\end{name}` become one text child, whatever they are
(`verbatim_is_one_text`); this holds at top level and inside environment bodies, where the list
is handed on (`WF` of `env` passes `skip` to its body); inside groups, arguments, math regions
and items the list is empty and no environment is opaque (`no_skip_list_no_verbatim`). The same
tokens under a name that is *not* in the list are read by the ordinary environment rule: the
body is interpreted (`other_name_is_interpreted`, and the two examples at the end on the very
same token list).
-/
namespace TexSoup.C11G
open TexSoup TexSoup.Gram

/-- **Opacity.** One node, one text child: the raw body. -/
theorem verbatim_is_one_text (skip : List Str) (tol : Bool) (m : Mode) (esc bgn : Tok) (nm : NameArg)
    (a2 a3 a4 : List Arg) (vb e5 rest : List Tok) (f : Nat)
    (hwf : WF skip m (win rest) (.venv esc bgn nm a2 a3 a4 vb e5) = true)
    (hf : 3 * (toks (.venv esc bgn nm a2 a3 a4 vb e5) ++ rest).length + 1 ≤ f) :
    readExpr f skip tol m (toks (.venv esc bgn nm a2 a3 a4 vb e5) ++ rest) =
      .ok (.nenv (strip nm.nt.text) (treesA .brace a2 ++ (treesA .bracket a3 ++ treesA .brace a4))
        [.text (flat vb) (headPos (vb ++ e5))] esc.pos, rest) :=
  readExpr_complete _ skip tol m rest f hwf hf

/-- Built-in and user-supplied names are in force alike: `parse` runs the reader with
`Tables.skipEnvNames ++ skip`. -/
theorem skip_list_in_force (name : Str) (user : List Str) :
    memStr name (Tables.skipEnvNames ++ user) = (memStr name Tables.skipEnvNames || memStr name user) :=
  memStr_append name _ _

/-- Well-formedness of a verbatim-like environment asks of the body only that `\end{name}` does
not start earlier and (the `runOK` conjunct) that its first tokens are not read as a further
argument of `\begin` – in particular nothing has to balance. -/
theorem verbatim_wf_iff (skip : List Str) (m : Mode) (nx : List Tok) (esc bgn : Tok) (nm : NameArg)
    (vb e5 : List Tok) :
    WF skip m nx (.venv esc bgn nm [] [] [] vb e5) =
      (esc.cat == .Escape && bgn.text == sBegin && m != .special && nm.ok
        && runOK (cmdSig (-1) (-1) bgn.text) [] [nm.toArg] [] [] (win (vb ++ e5))
        && memStr (strip nm.nt.text) skip && e5.length == 5 && flat e5 == endMarker (strip nm.nt.text)
        && noEarly (endMarker (strip nm.nt.text)) e5 vb) := by
  simp [WF, WFa]

/-- Where no skip list is in force (groups, arguments, math regions, items: the reader passes
`[]`) nothing is opaque. -/
theorem no_skip_list_no_verbatim (m : Mode) (nx : List Tok) (esc bgn : Tok) (nm : NameArg)
    (a2 a3 a4 : List Arg) (vb e5 : List Tok) : WF [] m nx (.venv esc bgn nm a2 a3 a4 vb e5) = false := by
  simp [WF, memStr]

/-- A name that is not in the list: the ordinary environment rule, the body is interpreted. -/
theorem other_name_is_interpreted (skip : List Str) (tol : Bool) (m : Mode) (esc bgn : Tok) (nm : NameArg)
    (a2 a3 a4 : List Arg) (b : List Elem) (esc2 en : Tok) (nm2 : NameArg) (rest : List Tok) (f : Nat)
    (hwf : WF skip m (win rest) (.env esc bgn nm a2 a3 a4 b esc2 en nm2) = true)
    (hf : 3 * (toks (.env esc bgn nm a2 a3 a4 b esc2 en nm2) ++ rest).length + 1 ≤ f) :
    memStr (strip nm.nt.text) skip = false ∧
    readExpr f skip tol m (toks (.env esc bgn nm a2 a3 a4 b esc2 en nm2) ++ rest) =
      .ok (.nenv (strip nm.nt.text) (treesA .brace a2 ++ (treesA .bracket a3 ++ treesA .brace a4))
        (trees b) esc.pos, rest) :=
  ⟨(WF_env.1 hwf).2.2.2.2.2.2.1, readExpr_complete _ skip tol m rest f hwf hf⟩

/-! ## Non-vacuity: one token list, two readings -/

private def t (s : Str) (p : Nat) (c : TC) : Tok := ⟨s, p, c⟩
private def sFoo : Str := [102, 111, 111]

/-- `\begin{foo}$x{\end{foo}` as an opaque environment (`foo` passed as a skip name) … -/
def asVerbatim : Doc :=
  [.venv (t [92] 0 .Escape) (t sBegin 1 .CommandName)
     ⟨none, t [123] 6 .GroupBegin, t sFoo 7 .Text, t [125] 10 .GroupEnd⟩ [] [] []
     [t [36] 11 .MathSwitch, t [120] 12 .Text, t [123] 13 .GroupBegin]
     [t [92] 14 .Escape, t sEnd 15 .CommandName, t [123] 18 .GroupBegin, t sFoo 19 .Text,
      t [125] 22 .GroupEnd]]

example : WFD (Tables.skipEnvNames ++ [sFoo]) asVerbatim = true := by decide +kernel
example : WFD Tables.skipEnvNames asVerbatim = false := by decide +kernel
example : treeD asVerbatim = [.nenv sFoo [] [.text [36, 120, 123] 11] 0] := by decide +kernel

/-- `\begin{foo}$x$\end{foo}`: the same name, not in the list – an ordinary environment with a
math region inside; as an opaque one (same tokens) the body is the text `$x$`. -/
def asEnv : Doc :=
  [.env (t [92] 0 .Escape) (t sBegin 1 .CommandName)
     ⟨none, t [123] 6 .GroupBegin, t sFoo 7 .Text, t [125] 10 .GroupEnd⟩ [] [] []
     [.math .dollar (t [36] 11 .MathSwitch) [.leaf (t [120] 12 .Text)] (t [36] 13 .MathSwitch)]
     (t [92] 14 .Escape) (t sEnd 15 .CommandName)
     ⟨none, t [123] 18 .GroupBegin, t sFoo 19 .Text, t [125] 22 .GroupEnd⟩]
def asVerbatim' : Doc :=
  [.venv (t [92] 0 .Escape) (t sBegin 1 .CommandName)
     ⟨none, t [123] 6 .GroupBegin, t sFoo 7 .Text, t [125] 10 .GroupEnd⟩ [] [] []
     [t [36] 11 .MathSwitch, t [120] 12 .Text, t [36] 13 .MathSwitch]
     [t [92] 14 .Escape, t sEnd 15 .CommandName, t [123] 18 .GroupBegin, t sFoo 19 .Text,
      t [125] 22 .GroupEnd]]

example : toksD asEnv = toksD asVerbatim' := by decide +kernel
example : WFD Tables.skipEnvNames asEnv = true ∧ WFD (Tables.skipEnvNames ++ [sFoo]) asEnv = false ∧
    WFD (Tables.skipEnvNames ++ [sFoo]) asVerbatim' = true ∧ WFD Tables.skipEnvNames asVerbatim' = false := by
  decide +kernel
example : treeD asEnv = [.nenv sFoo [] [.math .dollar [.text [120] 12] 11] 0] := by decide +kernel
example : treeD asVerbatim' = [.nenv sFoo [] [.text [36, 120, 36] 11] 0] := by decide +kernel

/-- Inside an environment body the list is still in force: `\begin{a}\begin{verbatim}}\end{verbatim}\end{a}`
(an opening brace at this place would be taken as an argument of `\begin{verbatim}` – `runOK`). -/
def nested : Doc :=
  [.env (t [92] 0 .Escape) (t sBegin 1 .CommandName)
     ⟨none, t [123] 6 .GroupBegin, t [97] 7 .Text, t [125] 8 .GroupEnd⟩ [] [] []
     [.venv (t [92] 9 .Escape) (t sBegin 10 .CommandName)
        ⟨none, t [123] 15 .GroupBegin, t [118, 101, 114, 98, 97, 116, 105, 109] 16 .Text, t [125] 24 .GroupEnd⟩
        [] [] [] [t [125] 25 .GroupEnd]
        [t [92] 26 .Escape, t sEnd 27 .CommandName, t [123] 30 .GroupBegin,
         t [118, 101, 114, 98, 97, 116, 105, 109] 31 .Text, t [125] 39 .GroupEnd]]
     (t [92] 40 .Escape) (t sEnd 41 .CommandName)
     ⟨none, t [123] 44 .GroupBegin, t [97] 45 .Text, t [125] 46 .GroupEnd⟩]
example : WFD Tables.skipEnvNames nested = true := by decide +kernel
example : treeD nested =
    [.nenv [97] [] [.nenv [118, 101, 114, 98, 97, 116, 105, 109] [] [.text [125] 25] 9] 0] := by decide +kernel
/-- … but not inside a group: `{\begin{verbatim}…}` there is an ordinary environment. -/
example : WFD Tables.skipEnvNames [.group (t [123] 0 .GroupBegin)
    [.venv (t [92] 9 .Escape) (t sBegin 10 .CommandName)
        ⟨none, t [123] 15 .GroupBegin, t [118, 101, 114, 98, 97, 116, 105, 109] 16 .Text, t [125] 24 .GroupEnd⟩
        [] [] [] [t [120] 25 .Text]
        [t [92] 26 .Escape, t sEnd 27 .CommandName, t [123] 30 .GroupBegin,
         t [118, 101, 114, 98, 97, 116, 105, 109] 31 .Text, t [125] 39 .GroupEnd]]
    (t [125] 40 .GroupEnd)] = false := by decide +kernel

end TexSoup.C11G
