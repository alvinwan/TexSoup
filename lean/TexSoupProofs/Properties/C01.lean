import TexSoupProofs.Properties.C16
import TexSoupProofs.Properties.TestVectors
/-!
# C01 – Parse → serialise round trip is lossless on well-formed documents

For every well-formed document in which each argument group immediately follows its command
or the previous argument, parsing succeeds and converting the tree back to text yields the
source exactly; the text of every node is the slice of the source it was parsed from.

Proved here, for ALL strings (not only grammar documents): if the string parses in strict
mode, has no NUL/DEL, no made-up arguments, plain environment names, and no whitespace token
directly before an opening brace/bracket ("each argument group immediately follows"), then
the serialisation IS the source, character for character. That well-formed documents *do*
parse is the completeness of the reader on the grammar (`Properties/C02.lean`, token level);
the node-slice clause is `Properties/C13Positions.lean` together with conservation of every
sub-reader (`C08.reader_invariant`).
-/
namespace TexSoup.C01

theorem roundtrip (skip : List Str) (s : Str) (es : List Expr)
    (hs : ∀ c ∈ s, isIgnored (catOf c) = false) (h : parse false skip s = .ok es)
    (hskip : ∀ n, memStr n skip = true → PlainEnvName n)
    (henv : ∀ ts, tokenize s = some ts → C08.EnvNamesPlain ts) (hnb : noBareL es = true)
    (hadj : ∀ ts, tokenize s = some ts → noSpacerBeforeOpener ts = true) : serL es = s :=
  C16.output_is_input skip s es hs h hskip henv hnb hadj

/-- the same in tolerant mode whenever strict parsing succeeds (C07a) -/
theorem roundtrip_tolerant (skip : List Str) (s : Str) (es : List Expr)
    (hs : ∀ c ∈ s, isIgnored (catOf c) = false) (h : parse false skip s = .ok es)
    (hskip : ∀ n, memStr n skip = true → PlainEnvName n)
    (henv : ∀ ts, tokenize s = some ts → C08.EnvNamesPlain ts) (hnb : noBareL es = true)
    (hadj : ∀ ts, tokenize s = some ts → noSpacerBeforeOpener ts = true) :
    parse true skip s = .ok es ∧ serL es = s :=
  ⟨parse_strict_tolerant skip s es h, roundtrip skip s es hs h hskip henv hnb hadj⟩

/-- `readExpr` reproduces the tokens it consumed (node-level form of the round trip: the text of a
node is the text of the tokens it was read from, minus dropped spacers). All twelve reader
functions: `C08.reader_invariant`. -/
theorem node_text_is_its_tokens (skip0 : List Str) (f : Nat) (skip : List Str) (tol : Bool) (mode : Mode)
    (ts : List Tok) (e : Expr) (rest : List Tok) (h : readExpr f skip tol mode ts = .ok (e, rest))
    (hy : Hyp skip0 ts) (hsk : ∀ x, memStr x skip = true → memStr x skip0 = true)
    (hnb : noBare e = true) : Cons tol ts (ser e) rest :=
  (consAt skip0 f).1 skip tol mode ts e rest h hy hsk hnb

/-! Non-vacuity: `\a{b}$c$` round-trips. -/
example : parse false [] [92, 97, 123, 98, 125, 36, 99, 36] =
    .ok [.cmd [97] [.group .brace [.text [98] 3] 2] [] 0, .math .dollar [.text [99] 6] 5] := by
  decide +kernel
example : serL [.cmd [97] [.group .brace [.text [98] 3] 2] [] 0, .math .dollar [.text [99] 6] 5] =
    [92, 97, 123, 98, 125, 36, 99, 36] := by decide +kernel

end TexSoup.C01
