import TexSoupProofs.Properties.C02Sound
import TexSoupProofs.Properties.C14Grammar
import TexSoupProofs.Properties.C10Grammar
import TexSoupProofs.Properties.C11Grammar
/-!
# The grammar corollaries for ALL strictly parsing representable inputs

The theorems `C14G.*`, `C10G.*`, … are stated for well-formed documents of the grammar. By
`C02.parse_sound` (the grammar is exhaustive) every source text that parses strictly to a
representable tree *is* such a document, so the same statements hold for every such input –
stated here on the source text `s` and its parse `es`, without any grammar document in the
hypotheses.

`StrictInput skip s es` collects what is assumed of the input (all of it is the hypothesis list
of `C02.parse_sound` plus "environment names are written plainly after `\begin`", finding F4b):

 * no NUL/DEL in `s`; `parse false skip s = .ok es`; user skip names are plain names;
 * on the tokens: the argument after `\begin`/`\end` is `{`, one text token, `}`
   (`EnvNamesSimple`), no backslash at the very end, `{name` after `\begin` is its own `strip()`;
 * on the tree: `Gram.repL .nonMath es` (no made-up arguments, fixed signatures respected).
-/
namespace TexSoup.AllInputs
open TexSoup TexSoup.Gram

/-- A source text that parses strictly to a representable tree. -/
structure StrictInput (skip : List Str) (s : Str) (es : List Expr) : Prop where
  chars : ∀ c ∈ s, isIgnored (catOf c) = false
  parses : parse false skip s = .ok es
  skipPlain : ∀ n, memStr n skip = true → PlainEnvName n
  tokens : ∀ ts, tokenize s = some ts → EnvNamesSimple ts ∧ NoTrailingEscape ts ∧ BeginPlain ts
  rep : repL .nonMath es = true

/-- **The input is a document of the grammar**: well-formed, with the source as its text, the
parse as its tree, a tokenizer output as its tokens, environment names written plainly. -/
theorem StrictInput.doc {skip : List Str} {s : Str} {es : List Expr} (h : StrictInput skip s es) :
    ∃ d : Doc, tokenize s = some (toksD d) ∧ flat (toksD d) = s ∧
      WFD (Tables.skipEnvNames ++ skip) d = true ∧ treeD d = es ∧ envNamesPlainS d = true ∧
      Separated none (toksD d) := by
  obtain ⟨d, ht, hfl, hwf, htr⟩ := C02.parse_sound skip s es h.chars h.parses h.skipPlain
    (fun ts hts => ⟨(h.tokens ts hts).1, (h.tokens ts hts).2.1⟩) h.rep
  exact ⟨d, ht, hfl, hwf, htr, envPlainS_of_tokens d _ _ _ _ hwf (h.tokens _ ht).2.2,
    (tokenize_separated h.chars ht).1⟩

/-- after every `\begin`, optional spacers and `{`, the next token is its own `strip()` -/
def beginPlainB : List Tok → Bool
  | [] => true
  | esc :: r =>
    (match r with
     | bg :: r' =>
        if esc.cat == .Escape && bg.text == sBegin then
          (match r'.dropWhile (fun x => x.cat == .MergedSpacer) with
           | o :: nt :: _ => o.cat != .GroupBegin || strip nt.text == nt.text
           | _ => true)
        else true
     | [] => true) && beginPlainB r

theorem dropWhile_spacers (sp : List Tok) (o : Tok) (r : List Tok) (hsp : ∀ x ∈ sp, x.cat = .MergedSpacer)
    (ho : o.cat = .GroupBegin) :
    (sp ++ o :: r).dropWhile (fun x => x.cat == TC.MergedSpacer) = o :: r := by
  induction sp with
  | nil => simp [ho]
  | cons x xs ih =>
    simp only [List.cons_append, List.dropWhile]
    rw [hsp x List.mem_cons_self]
    simp only [beq_self_eq_true]
    exact ih (fun y hy => hsp y (List.mem_cons_of_mem _ hy))

theorem beginPlain_of_check : ∀ ts : List Tok, beginPlainB ts = true → BeginPlain ts := by
  intro ts
  induction ts with
  | nil =>
    intro _ pre esc bg sp o nt r he
    cases pre <;> simp at he
  | cons t ts ih =>
    intro h pre esc bg sp o nt r he hesc hbg hsp ho
    simp only [beginPlainB, Bool.and_eq_true] at h
    cases pre with
    | cons p pre' =>
      simp only [List.cons_append, List.cons.injEq] at he
      exact ih h.2 pre' esc bg sp o nt r he.2 hesc hbg hsp ho
    | nil =>
      simp only [List.nil_append, List.cons.injEq] at he
      obtain ⟨rfl, rfl⟩ := he
      have h1 := h.1
      simp only [hesc, hbg, beq_self_eq_true] at h1
      rw [dropWhile_spacers sp o (nt :: r) hsp ho] at h1
      simpa [ho] using h1

theorem strictInput_of_checks (skip : List Str) (s : Str) (es : List Expr)
    (hs : ∀ c ∈ s, isIgnored (catOf c) = false) (h : parse false skip s = .ok es)
    (hskip : ∀ n, memStr n skip = true → PlainEnvName n)
    (hchk : ∀ ts, tokenize s = some ts →
      envNamesShapeB ts = true ∧ C02.noTrailingEscapeB ts = true ∧ beginPlainB ts = true)
    (hrep : repL .nonMath es = true) : StrictInput skip s es :=
  ⟨hs, h, hskip, fun ts hts => ⟨envNamesSimple_of_shape (hchk ts hts).1,
    C02.noTrailingEscape_of_check (hchk ts hts).2.1, beginPlain_of_check ts (hchk ts hts).2.2⟩, hrep⟩

theorem mem_trees {x : Expr} : ∀ {es : List Elem}, x ∈ trees es → ∃ e ∈ es, tree e = x
  | [], h => by simp at h
  | e :: es, h => by
      simp only [trees_cons, List.mem_cons] at h
      rcases h with rfl | h
      · exact ⟨e, List.mem_cons_self, rfl⟩
      · obtain ⟨e', he', ht⟩ := mem_trees h
        exact ⟨e', List.mem_cons_of_mem _ he', ht⟩

end TexSoup.AllInputs

namespace TexSoup.C14
open TexSoup TexSoup.Gram TexSoup.AllInputs TexSoup.C14G

/-- **`node.name = new` on a command, for every strictly parsing input.** `es` is the strict
parse of `s`; `p` is the path of a command `\old` in it, the only one of that name at that
position; `old`, `new` are command names with the same role, `new` is no sizing prefix, no
command name of the source is a bare sizing prefix. Then `str` of the edited tree parses, in
both tolerance modes, to a tree of the same shape and text. -/
theorem rename_command_reparse_all (tol : Bool) (skip : List Str) (s : Str) (es : List Expr)
    (hin : StrictInput skip s es)
    (hsz : ∀ ts, tokenize s = some ts → C16G.noBareSizing ts = true)
    (p : Path) (old new : Str) (a b : List Expr) (pos : Int) (hp : p ≠ [])
    (hget : getAtRoot es p = some (.cmd old a b pos))
    (huniq : selCountL (qAt old pos) qNone es = 1)
    (hrole : sameRole old new = true) (hgold : goodName old = true) (hgnew : goodName new = true)
    (hnsz : new ∉ Tables.sizePrefix) :
    ∃ t2, parse tol skip (serL (applyEdit es (.rename p new))) = .ok t2 ∧
      shapeL t2 = shapeL (applyEdit es (.rename p new)) ∧
      serL t2 = serL (applyEdit es (.rename p new)) := by
  obtain ⟨d, ht, -, hwf, rfl, hen, hsep⟩ := hin.doc
  exact rename_command_reparse_of_source tol skip d p old new a b pos hwf hen hsep (hsz _ ht) hp hget
    huniq hrole hgold hgnew hnsz

/-- **`node.name = new` on an environment, for every strictly parsing input.** -/
theorem rename_environment_reparse_all (tol : Bool) (skip : List Str) (s : Str) (es : List Expr)
    (hin : StrictInput skip s es)
    (hsz : ∀ ts, tokenize s = some ts → C16G.noBareSizing ts = true)
    (p : Path) (old new : Str) (a b : List Expr) (pos : Int) (hp : p ≠ [])
    (hget : getAtRoot es p = some (.nenv old a b pos)) (hpos : pos ≠ -1)
    (huniq : selCountL qNone (qAt old pos) es = 1)
    (hrole : envRole old new = true)
    (hold : memStr old (Tables.skipEnvNames ++ skip) = false)
    (hnews : memStr new (Tables.skipEnvNames ++ skip) = false)
    (hlold : letterStart old = true) (hgnew : goodText new = true) :
    ∃ t2, parse tol skip (serL (applyEdit es (.rename p new))) = .ok t2 ∧
      shapeL t2 = shapeL (applyEdit es (.rename p new)) ∧
      serL t2 = serL (applyEdit es (.rename p new)) := by
  obtain ⟨d, ht, -, hwf, rfl, hen, hsep⟩ := hin.doc
  exact rename_environment_reparse_of_source tol skip d p old new a b pos hwf hen hsep (hsz _ ht) hp hget
    hpos huniq hrole hold hnews hlold hgnew

/-- **`node.string = x` on a command with one argument, for every strictly parsing input**
(trees compared without positions: the new string has none). -/
theorem set_string_command_reparse_all (tol : Bool) (skip : List Str) (s : Str) (es : List Expr)
    (hin : StrictInput skip s es)
    (hsz : ∀ ts, tokenize s = some ts → C16G.noBareSizing ts = true)
    (p : Path) (old : Str) (a : Expr) (b : List Expr) (pos : Int) (x : Str) (hp : p ≠ [])
    (hget : getAtRoot es p = some (.cmd old [a] b pos)) (hold : (old == sItem) = false)
    (huniq : cntSelL (strSel (qAt old pos) qNone) es = 1) (hx : goodText x = true) :
    ∃ t2, parse tol skip (serL (applyEdit es (.setString p x))) = .ok t2 ∧
      bareL t2 = bareL (applyEdit es (.setString p x)) ∧
      serL t2 = serL (applyEdit es (.setString p x)) := by
  obtain ⟨d, ht, -, hwf, rfl, hen, hsep⟩ := hin.doc
  exact set_string_command_reparse_of_source tol skip d p old a b pos x hwf hen hsep (hsz _ ht) hp hget
    hold huniq hx

/-- **`node.string = x` on an argument-less environment with a one-text body.** -/
theorem set_string_environment_reparse_all (tol : Bool) (skip : List Str) (s : Str) (es : List Expr)
    (hin : StrictInput skip s es)
    (hsz : ∀ ts, tokenize s = some ts → C16G.noBareSizing ts = true)
    (p : Path) (old u : Str) (pu pos : Int) (x : Str) (hp : p ≠ [])
    (hget : getAtRoot es p = some (.nenv old [] [.text u pu] pos)) (hu : isBlank u = false)
    (hpos : pos ≠ -1) (hold : memStr old (Tables.skipEnvNames ++ skip) = false)
    (huniq : cntSelL (strSel qNone (qAt old pos)) es = 1) (hx : goodText x = true) :
    ∃ t2, parse tol skip (serL (applyEdit es (.setString p x))) = .ok t2 ∧
      bareL t2 = bareL (applyEdit es (.setString p x)) ∧
      serL t2 = serL (applyEdit es (.setString p x)) := by
  obtain ⟨d, ht, -, hwf, rfl, hen, hsep⟩ := hin.doc
  exact set_string_environment_reparse_of_source tol skip d p old u pu pos x hwf hen hsep (hsz _ ht) hp
    hget hu hpos hold huniq hx

end TexSoup.C14

namespace TexSoup.C10
open TexSoup TexSoup.Gram TexSoup.AllInputs TexSoup.C10G

mutual
/-- No verbatim-like environment (name in `sk`) has a body that starts with a comment character
(there `%` is no comment: the whole body is one text node). -/
def verbTreeOK (sk : List Str) : Expr → Bool
  | .text _ _ => true
  | .cmd _ a b _ => verbTreeOKL sk a && verbTreeOKL sk b
  | .nenv n a b _ =>
      verbTreeOKL sk a && verbTreeOKL sk b &&
      !(memStr n sk && (match b with
                        | [.text u _] => isCommentText u
                        | _ => false))
  | .math _ b _ => verbTreeOKL sk b
  | .group _ b _ => verbTreeOKL sk b
def verbTreeOKL (sk : List Str) : List Expr → Bool
  | [] => true
  | e :: es => verbTreeOK sk e && verbTreeOKL sk es
end

@[simp] theorem verbTreeOKL_nil (sk : List Str) : verbTreeOKL sk [] = true := by simp [verbTreeOKL]
@[simp] theorem verbTreeOKL_cons (sk : List Str) (e : Expr) (es : List Expr) :
    verbTreeOKL sk (e :: es) = (verbTreeOK sk e && verbTreeOKL sk es) := by simp [verbTreeOKL]
theorem verbTreeOKL_append (sk : List Str) (a b : List Expr) :
    verbTreeOKL sk (a ++ b) = (verbTreeOKL sk a && verbTreeOKL sk b) := by
  induction a with
  | nil => simp
  | cons e es ih => simp [ih, Bool.and_assoc]

theorem verbOK_all (sk : List Str) :
    (∀ (e : Elem) (skip : List Str) (m : Mode) (nx : List Tok),
      SkipSub skip sk → WF skip m nx e = true → verbTreeOK sk (tree e) = true → verbOK e = true) ∧
    (∀ (a : Arg) (m : Mode) (k : GKind),
      WFarg m k a = true → verbTreeOK sk (treeArg k a) = true → verbOKArg a = true) ∧
    (∀ (es : List Elem) (skip : List Str) (m : Mode) (ctx : Ctx) (nx : List Tok),
      SkipSub skip sk → WFs skip m ctx nx es = true → verbTreeOKL sk (trees es) = true →
      verbOKS es = true) ∧
    (∀ (as : List Arg) (m : Mode) (k : GKind),
      WFa m k as = true → verbTreeOKL sk (treesA k as) = true → verbOKA as = true) := by
  apply induct
  · intros; simp [verbOK]
  · intro o b c ib skip m nx hs h ht
    simp only [tree, verbTreeOK] at ht
    simp only [verbOK]
    exact ib _ _ _ _ (skipSub_nil sk) (WF_group.1 h).2.2 ht
  · intro k o b c ib skip m nx hs h ht
    simp only [tree, verbTreeOK] at ht
    simp only [verbOK]
    exact ib _ _ _ _ (skipSub_nil sk) (WF_math.1 h).2.2 ht
  · intro e n a1 a2 a3 a4 i1 i2 i3 i4 skip m nx hs h ht
    obtain ⟨-, w1, w2, w3, w4, -⟩ := WF_cmd.1 h
    simp only [tree, verbTreeOK, verbTreeOKL_append, verbTreeOKL_nil, Bool.and_eq_true, and_true] at ht
    simp only [verbOK, Bool.and_eq_true]
    exact ⟨⟨⟨i1 _ _ w1 ht.1, i2 _ _ w2 ht.2.1⟩, i3 _ _ w3 ht.2.2.1⟩, i4 _ _ w4 ht.2.2.2⟩
  · intro e n a1 a2 a3 a4 b i1 i2 i3 i4 ib skip m nx hs h ht
    obtain ⟨-, w1, w2, w3, w4, -, hb, -⟩ := WF_item.1 h
    simp only [tree, verbTreeOK, verbTreeOKL_append, Bool.and_eq_true] at ht
    simp only [verbOK, Bool.and_eq_true]
    exact ⟨⟨⟨⟨i1 _ _ w1 ht.1.1, i2 _ _ w2 ht.1.2.1⟩, i3 _ _ w3 ht.1.2.2.1⟩, i4 _ _ w4 ht.1.2.2.2⟩,
      ib _ _ _ _ (skipSub_nil sk) hb ht.2⟩
  · intro e bg nm a2 a3 a4 b e2 en nm2 i2 i3 i4 ib skip m nx hs h ht
    obtain ⟨-, -, w2, w3, w4, -, -, hb, -⟩ := WF_env.1 h
    simp only [tree, verbTreeOK, verbTreeOKL_append, Bool.and_eq_true] at ht
    simp only [verbOK, Bool.and_eq_true]
    exact ⟨⟨⟨i2 _ _ w2 ht.1.1.1, i3 _ _ w3 ht.1.1.2.1⟩, i4 _ _ w4 ht.1.1.2.2⟩,
      ib _ _ _ _ hs hb ht.1.2⟩
  · intro e bg nm a2 a3 a4 vb e5 i2 i3 i4 skip m nx hs h ht
    obtain ⟨-, -, w2, w3, w4, -, hmem, -⟩ := WF_venv.1 h
    simp only [tree, verbTreeOK, verbTreeOKL_append, Bool.and_eq_true, hs _ hmem, Bool.true_and,
      Bool.not_eq_true'] at ht
    simp only [verbOK, Bool.and_eq_true, Bool.not_eq_true']
    exact ⟨⟨⟨i2 _ _ w2 ht.1.1.1, i3 _ _ w3 ht.1.1.2.1⟩, i4 _ _ w4 ht.1.1.2.2⟩, ht.2⟩
  · intro sp o b c ib m k h ht
    simp only [WFarg, Bool.and_eq_true] at h
    simp only [treeArg, verbTreeOK] at ht
    simp only [verbOKArg]
    exact ib _ _ _ _ (skipSub_nil sk) h.2 ht
  · intros; simp [verbOKS]
  · intro e es ie ies _ skip m ctx nx hs h ht
    obtain ⟨h1, _, h3, _⟩ := WFs_cons h
    simp only [trees_cons, verbTreeOKL_cons, Bool.and_eq_true] at ht
    simp only [verbOKS, Bool.and_eq_true]
    exact ⟨ie _ _ _ hs h1 ht.1, ies _ _ _ _ hs h3 ht.2⟩
  · intros; simp [verbOKA]
  · intro a as ia ias m k h ht
    obtain ⟨h1, h2⟩ := WFa_cons h
    simp only [treesA_cons, verbTreeOKL_cons, Bool.and_eq_true] at ht
    simp only [verbOKA, Bool.and_eq_true]
    exact ⟨ia _ _ h1 ht.1, ias _ _ h2 ht.2⟩

theorem verbOK_of_tree (sk : List Str) : ∀ (e : Elem) (skip : List Str) (m : Mode) (nx : List Tok),
    SkipSub skip sk → WF skip m nx e = true → verbTreeOK sk (tree e) = true → verbOK e = true :=
  (verbOK_all sk).1
theorem verbOKS_of_tree (sk : List Str) : ∀ (es : List Elem) (skip : List Str) (m : Mode) (ctx : Ctx)
    (nx : List Tok), SkipSub skip sk → WFs skip m ctx nx es = true → verbTreeOKL sk (trees es) = true →
    verbOKS es = true :=
  (verbOK_all sk).2.2.1
theorem verbOKArg_of_tree (sk : List Str) : ∀ (a : Arg) (m : Mode) (k : GKind),
    WFarg m k a = true → verbTreeOK sk (treeArg k a) = true → verbOKArg a = true :=
  (verbOK_all sk).2.1
theorem verbOKA_of_tree (sk : List Str) : ∀ (as : List Arg) (m : Mode) (k : GKind),
    WFa m k as = true → verbTreeOKL sk (treesA k as) = true → verbOKA as = true :=
  (verbOK_all sk).2.2.2

theorem mapCommentTok_id (t : Tok) : mapCommentTok (fun x => x) t = t := by
  unfold mapCommentTok; split <;> rfl

theorem mapComments_id_all :
    (∀ e : Elem, mapComments (fun x => x) e = e) ∧ (∀ a : Arg, mapCommentsArg (fun x => x) a = a) ∧
    (∀ es : List Elem, mapCommentsS (fun x => x) es = es) ∧
    (∀ as : List Arg, mapCommentsA (fun x => x) as = as) := by
  apply induct
  · intro t; simp [mapComments, mapCommentTok_id]
  · intro o b c ib; simp [mapComments, ib]
  · intro k o b c ib; simp [mapComments, ib]
  · intro e n a1 a2 a3 a4 i1 i2 i3 i4; simp [mapComments, i1, i2, i3, i4]
  · intro e n a1 a2 a3 a4 b i1 i2 i3 i4 ib; simp [mapComments, i1, i2, i3, i4, ib]
  · intro e bg nm a2 a3 a4 b e2 en nm2 i2 i3 i4 ib; simp [mapComments, i2, i3, i4, ib]
  · intro e bg nm a2 a3 a4 vb e5 i2 i3 i4; simp [mapComments, i2, i3, i4]
  · intro sp o b c ib; simp [mapCommentsArg, ib]
  · simp [mapCommentsS]
  · intro e es ie ies _; simp [mapCommentsS, ie, ies]
  · simp [mapCommentsA]
  · intro a as ia ias; simp [mapCommentsA, ia, ias]

theorem mapComments_id : ∀ e : Elem, mapComments (fun x => x) e = e := mapComments_id_all.1
theorem mapCommentsArg_id : ∀ a : Arg, mapCommentsArg (fun x => x) a = a := mapComments_id_all.2.1
theorem mapCommentsA_id : ∀ as : List Arg, mapCommentsA (fun x => x) as = as := mapComments_id_all.2.2.2

/-- **C10 for every strictly parsing input.** The source `s` is the text of a document `d`
(its tree is the parse `es`); replace the comments of `d` by arbitrary other comments `f` (`%`,
then anything but an end of line). The new text parses, in both tolerance modes, to the old tree
with exactly the comment leaves relabelled (`shapeL`: up to the positions, which shift with the
payload lengths), and it is again a tokenizer output. (`mapCommentsD f d` with `f = id` is `d`,
whose text is `s`: the texts in the conclusion are `s` with other payloads.) Only side condition beyond `StrictInput`:
no verbatim-like environment has a body that starts with `%` (`verbTreeOKL`, on the tree). -/
theorem comment_payload_irrelevant_all (skip : List Str) (s : Str) (es : List Expr)
    (hin : StrictInput skip s es) (hv : verbTreeOKL (Tables.skipEnvNames ++ skip) es = true) :
    ∃ d : Doc, flat (toksD d) = s ∧ treeD d = es ∧ mapCommentsD (fun x => x) d = d ∧
      ∀ (tol : Bool) (f : Str → Str), (∀ x, goodPayload (f x) = true) →
        Separated none (toksD (mapCommentsD f d)) ∧
        ∃ t2, parse tol skip (flat (toksD (mapCommentsD f d))) = .ok t2 ∧
          shapeL t2 = shapeL (mapCommentTextsL f es) := by
  obtain ⟨d, ht, hfl, hwf, rfl, hen, hsep⟩ := hin.doc
  have hvd : verbOKS d = true :=
    verbOKS_of_tree _ d _ _ _ _ (fun x hx => hx) hwf hv
  refine ⟨d, hfl, rfl, ?_, fun tol f hf => comment_payload_does_not_matter f hf skip tol d hwf hsep hvd⟩
  exact mapComments_id_all.2.2.1 d

end TexSoup.C10

namespace TexSoup.C11
open TexSoup TexSoup.Gram TexSoup.AllInputs

/-- **C11 for every strictly parsing input** (top level): an environment node whose name is in
the skip list in force has exactly one text node as its body – nothing in it was interpreted
(`C11G.verbatim_is_one_text` says which text: the raw source up to the first `\end{name}`). -/
theorem verbatim_is_one_text_all (skip : List Str) (s : Str) (es : List Expr)
    (hin : StrictInput skip s es) (name : Str) (args body : List Expr) (pos : Int)
    (hmem : Expr.nenv name args body pos ∈ es)
    (hskip : memStr name (Tables.skipEnvNames ++ skip) = true) :
    ∃ u q, body = [.text u q] := by
  obtain ⟨d, -, -, hwf, rfl, -, -⟩ := hin.doc
  obtain ⟨e, he, ht⟩ := mem_trees hmem
  obtain ⟨nx, hw⟩ := (WFs_mem hwf he).1
  cases e with
  | env e bg nm a2 a3 a4 b e2 en nm2 =>
    exfalso
    simp only [tree, Expr.nenv.injEq] at ht
    have hns := (WF_env.1 hw).2.2.2.2.2.2.1
    rw [ht.1, hskip] at hns
    cases hns
  | venv e bg nm a2 a3 a4 vb e5 =>
    simp only [tree, Expr.nenv.injEq] at ht
    exact ⟨_, _, ht.2.2.1.symm⟩
  | _ => cases ht

end TexSoup.C11

namespace TexSoup.C09
open TexSoup TexSoup.Gram TexSoup.AllInputs

theorem args_shape_of_tree {e : Elem} {name : Str} {args body : List Expr} {pos : Int}
    (ht : tree e = .cmd name args body pos) :
    ∃ g1 g2 g3 g4, args = g1 ++ (g2 ++ (g3 ++ g4)) ∧
      (∀ x ∈ g1, isBracketG x = true) ∧ (∀ x ∈ g2, isBraceG x = true) ∧
      (∀ x ∈ g3, isBracketG x = true) ∧ (∀ x ∈ g4, isBraceG x = true) := by
  cases e with
  | cmd esc n a1 a2 a3 a4 =>
    simp only [tree, Expr.cmd.injEq] at ht
    exact ⟨_, _, _, _, ht.2.1.symm, treesA_bracket_all a1, fun x hx => (treesA_brace_all a2 x hx).1,
      treesA_bracket_all a3, fun x hx => (treesA_brace_all a4 x hx).1⟩
  | item esc n a1 a2 a3 a4 b =>
    simp only [tree, Expr.cmd.injEq] at ht
    exact ⟨_, _, _, _, ht.2.1.symm, treesA_bracket_all a1, fun x hx => (treesA_brace_all a2 x hx).1,
      treesA_bracket_all a3, fun x hx => (treesA_brace_all a4 x hx).1⟩
  | _ => cases ht

/-- **C09 for every strictly parsing input** (top level): the arguments of a command node are a
run of the shape `read_args` reads – bracket groups, brace groups, and then once more bracket
groups, brace groups. Which
groups these are on the token side: `C09G.command_takes_its_groups` and the three necessity
statements. -/
theorem command_args_shape_all (skip : List Str) (s : Str) (es : List Expr)
    (hin : StrictInput skip s es) (name : Str) (args body : List Expr) (pos : Int)
    (hmem : Expr.cmd name args body pos ∈ es) :
    ∃ g1 g2 g3 g4, args = g1 ++ (g2 ++ (g3 ++ g4)) ∧
      (∀ x ∈ g1, isBracketG x = true) ∧ (∀ x ∈ g2, isBraceG x = true) ∧
      (∀ x ∈ g3, isBracketG x = true) ∧ (∀ x ∈ g4, isBraceG x = true) := by
  obtain ⟨d, -, -, -, rfl, -, -⟩ := hin.doc
  obtain ⟨e, -, ht⟩ := mem_trees hmem
  exact args_shape_of_tree ht

end TexSoup.C09

namespace TexSoup.AllInputs
open TexSoup TexSoup.Gram

theorem strictInput_of_doc (skip : List Str) (s : Str) (d : Doc)
    (hs : ∀ c ∈ s, isIgnored (catOf c) = false) (ht : tokenize s = some (toksD d))
    (hwf : WFD (Tables.skipEnvNames ++ skip) d = true)
    (hskip : ∀ n, memStr n skip = true → PlainEnvName n)
    (hchk : envNamesShapeB (toksD d) = true ∧ C02.noTrailingEscapeB (toksD d) = true ∧
      beginPlainB (toksD d) = true)
    (hrep : repL .nonMath (treeD d) = true) : StrictInput skip s (treeD d) :=
  strictInput_of_checks skip s _ hs (C02.parse_complete false skip s d ht hwf) hskip
    (fun ts hts => by
      rw [ht] at hts
      cases hts
      exact hchk) hrep

/-- `\begin{a}\item\foo{b}x\end{a}` (`C14G.exDoc`) -/
def src14 : Str := [92, 98, 101, 103, 105, 110, 123, 97, 125, 92, 105, 116, 101, 109, 92, 102, 111, 111,
  123, 98, 125, 120, 92, 101, 110, 100, 123, 97, 125]

theorem tok14 : tokenize src14 = some (toksD C14G.exDoc) := by decide +kernel

theorem in14 : StrictInput [] src14 (treeD C14G.exDoc) :=
  strictInput_of_doc [] src14 C14G.exDoc (by decide +kernel) tok14 (by decide +kernel)
    (by intro n hn; simp [memStr] at hn) (by decide +kernel) (by decide +kernel)

theorem sizing14 (ts : List Tok) (hts : tokenize src14 = some ts) : C16G.noBareSizing ts = true := by
  cases Option.some.inj (tok14.symm.trans hts)
  decide +kernel

/-- rename `\foo` (offset 14, inside the `\item` inside the environment) to `\bar` -/
example : ∃ t2, parse true [] (serL (applyEdit (treeD C14G.exDoc)
      (.rename [.body 0, .body 0, .body 0] C14G.sBar))) = .ok t2 ∧
    shapeL t2 = shapeL (applyEdit (treeD C14G.exDoc) (.rename [.body 0, .body 0, .body 0] C14G.sBar)) ∧
    serL t2 = serL (applyEdit (treeD C14G.exDoc) (.rename [.body 0, .body 0, .body 0] C14G.sBar)) :=
  C14.rename_command_reparse_all true [] src14 _ in14 sizing14
    [.body 0, .body 0, .body 0] C14G.sFoo C14G.sBar _ _ 14 (by decide) (by rfl)
    (by decide +kernel) (by decide +kernel) (by decide +kernel) (by decide +kernel) (by decide +kernel)

/-- rename the environment `a` to `b` -/
example : ∃ t2, parse false [] (serL (applyEdit (treeD C14G.exDoc) (.rename [.body 0] [98]))) = .ok t2 ∧
    shapeL t2 = shapeL (applyEdit (treeD C14G.exDoc) (.rename [.body 0] [98])) ∧
    serL t2 = serL (applyEdit (treeD C14G.exDoc) (.rename [.body 0] [98])) :=
  C14.rename_environment_reparse_all false [] src14 _ in14 sizing14
    [.body 0] [97] [98] _ _ 0 (by decide) (by rfl) (by decide) (by decide +kernel)
    (by decide +kernel) (by decide +kernel) (by decide +kernel) (by decide +kernel) (by decide +kernel)

/-- `\foo{b}.string = "hi 1"` -/
example : ∃ t2, parse false [] (serL (applyEdit (treeD C14G.exDoc)
      (.setString [.body 0, .body 0, .body 0] C14G.sHi))) = .ok t2 ∧
    bareL t2 = bareL (applyEdit (treeD C14G.exDoc) (.setString [.body 0, .body 0, .body 0] C14G.sHi)) ∧
    serL t2 = serL (applyEdit (treeD C14G.exDoc) (.setString [.body 0, .body 0, .body 0] C14G.sHi)) :=
  C14.set_string_command_reparse_all false [] src14 _ in14 sizing14
    [.body 0, .body 0, .body 0] C14G.sFoo _ _ 14 C14G.sHi (by decide) (by rfl)
    (by decide +kernel) (by decide +kernel) (by decide +kernel)

/-- `\foo[%a⏎]{x}%b` (`C10G.exDoc`) -/
def src10 : Str := [92, 102, 111, 111, 91, 37, 97, 10, 93, 123, 120, 125, 37, 98]

theorem in10 : StrictInput [] src10 (treeD C10G.exDoc) :=
  strictInput_of_doc [] src10 C10G.exDoc (by decide +kernel) (by decide +kernel) (by decide +kernel)
    (by intro n hn; simp [memStr] at hn) (by decide +kernel) (by decide +kernel)

example : ∃ d : Doc, flat (toksD d) = src10 ∧ treeD d = treeD C10G.exDoc ∧
    mapCommentsD (fun x => x) d = d ∧
    ∀ (tol : Bool) (f : Str → Str), (∀ x, C10G.goodPayload (f x) = true) →
      Separated none (toksD (mapCommentsD f d)) ∧
      ∃ t2, parse tol [] (flat (toksD (mapCommentsD f d))) = .ok t2 ∧
        shapeL t2 = shapeL (C10G.mapCommentTextsL f (treeD C10G.exDoc)) :=
  C10.comment_payload_irrelevant_all [] src10 _ in10 (by decide)

/-- `\begin{foo}$x{\end{foo}` with `foo` as a user skip name (`C11G.asVerbatim`) -/
def src11 : Str := [92, 98, 101, 103, 105, 110, 123, 102, 111, 111, 125, 36, 120, 123, 92, 101, 110, 100,
  123, 102, 111, 111, 125]

theorem in11 : StrictInput [[102, 111, 111]] src11 (treeD C11G.asVerbatim) :=
  strictInput_of_doc [[102, 111, 111]] src11 C11G.asVerbatim (by decide +kernel) (by decide +kernel)
    (by decide +kernel)
    (by
      intro n hn
      have : n = [102, 111, 111] := by simpa [memStr] using hn
      subst this; decide)
    (by decide +kernel) (by decide +kernel)

example : ∃ u q, ([Expr.text [36, 120, 123] 11] : List Expr) = [.text u q] :=
  C11.verbatim_is_one_text_all [[102, 111, 111]] src11 _ in11 [102, 111, 111] [] _ 0
    (by decide +kernel)
    (by decide)

/-- `\foo [a] {b}x` (`C02.exSpaced`) -/
theorem in09 : StrictInput [] C02.srcSpaced (treeD C02.exSpaced) :=
  strictInput_of_doc [] C02.srcSpaced C02.exSpaced (by decide +kernel) C02.tokSpaced C02.wfSpaced
    (by intro n hn; simp [memStr] at hn) (by decide +kernel) (by decide +kernel)

example : ∃ g1 g2 g3 g4,
    ([.group .bracket [.text [97] 6] 5, .group .brace [.text [98] 10] 9] : List Expr) = g1 ++ (g2 ++ (g3 ++ g4)) ∧
    (∀ x ∈ g1, isBracketG x = true) ∧ (∀ x ∈ g2, isBraceG x = true) ∧
    (∀ x ∈ g3, isBracketG x = true) ∧ (∀ x ∈ g4, isBraceG x = true) :=
  C09.command_args_shape_all [] C02.srcSpaced _ in09 [102, 111, 111] _ [] 0
    (by decide +kernel)

end TexSoup.AllInputs
