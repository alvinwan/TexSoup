import TexSoupProofs.Complete.Main
import TexSoupProofs.Properties.TestVectors
/-!
# C02 – The parse tree mirrors the construct structure of the document

Token-level completeness of the reader (Core C). `TexSoupModel/Grammar.lean` defines the
documents *as written*: `Gram.Elem` (text leaves, brace groups, the four math regions, commands
with argument runs – open, fixed and zero signatures, special commands –, `\item` with the
contents it owns, named environments incl. the named math environments, verbatim-like
environments), the tokens they are written with (`toks`), the tree that is expected (`tree`)
and the frame conditions `WF` under which the tokens mean what the syntax tree says.

Proved here, for **all** documents of the grammar, any nesting depth and length, both
tolerance values, and with the fuel the parser really uses:
`read_tex` returns exactly the generating tree (`tree_mirrors_document`); every construct,
wherever it stands, is read back as exactly its own tree and the tokens after it are left to
its neighbours (`construct_read_back`) – nothing is attached to the wrong parent, split off
or merged; `\begin`/`\end` inside the arguments of a `\newcommand`-style definition are plain
commands (`begin_end_in_special_are_commands`); an `\item` owns exactly the elements up to the
next `\item`, `\end`, unmatched `}` or the end of input (`item_owns_up_to_stop`).

From source *text* the same holds whenever the tokenizer yields the tokens of a well-formed
document (`parse_complete`); that the tokenizer does so for the rendered text of a document
is the tokenizer-inverse part of Core C (`C02Strings.lean`).

Frame conditions (all in `Gram.WF`, each forced by the reader, see the comments there):
what follows an argument run (`runOK`), what an element may not start with per loop
(`startOK`), the look-ahead `(1,0)` of `read_env` (last conjunct of `WFs`: a free group after an
argument-less command in an environment body must also be readable in the mode of the body),
`\end{x}` closes `\begin{y}` iff `x = strip y`, verbatim bodies must not start with an argument
opener, an `\item` inside `[..]` never ends.
-/
namespace TexSoup.C02
open TexSoup TexSoup.Gram

/-- **Well-formed documents parse and the tree is the structure that was written.** -/
theorem tree_mirrors_document (skip : List Str) (tol : Bool) (d : Doc) (hwf : WFD skip d = true) :
    readTex (parseFuel (toksD d)) skip tol (toksD d) = .ok (treeD d) :=
  document_complete skip tol d hwf

/-- The same from source text, given that the tokenizer produces the document's tokens. -/
theorem parse_complete (tol : Bool) (skip : List Str) (s : Str) (d : Doc)
    (ht : tokenize s = some (toksD d)) (hwf : WFD (Tables.skipEnvNames ++ skip) d = true) :
    parse tol skip s = .ok (treeD d) :=
  (parse_eq_readTex ht).trans (document_complete _ tol d hwf)

/-- **Every construct is read back exactly**, in every mode, with every skip list, for both
tolerance values, whatever follows it (`rest` enters only through its look-ahead window), and
`rest` is handed on untouched: no neighbour is absorbed, nothing is split off. -/
theorem construct_read_back (e : Elem) (skip : List Str) (tol : Bool) (m : Mode) (rest : List Tok)
    (f : Nat) (hwf : WF skip m (win rest) e = true) (hf : 3 * (toks e ++ rest).length + 1 ≤ f) :
    readExpr f skip tol m (toks e ++ rest) = .ok (tree e, rest) :=
  readExpr_complete e skip tol m rest f hwf hf

/-- A zero-argument operator (signature `(0, 0)` in the table: `\in`, `\cup`, `\noindent` …)
takes nothing, whatever follows it – no frame condition at all. -/
theorem zero_arg_operator_absorbs_nothing (skip : List Str) (tol : Bool) (m : Mode) (esc name : Tok)
    (rest : List Tok) (f : Nat) (hesc : esc.cat = .Escape)
    (hsig : cmdSig (-1) (-1) name.text = (0, 0)) (hni : name.text ≠ sItem) (hnb : name.text ≠ sBegin)
    (hf : 3 * (rest.length + 2) + 1 ≤ f) :
    readExpr f skip tol m (esc :: name :: rest) = .ok (.cmd (strip name.text) [] [] esc.pos, rest) := by
  have hwf : WF skip m (win rest) (.cmd esc name [] [] [] []) = true :=
    WF_cmd.2 ⟨⟨hesc, hni, .inl hnb⟩, rfl, rfl, rfl, rfl, by simp [hsig, runOK, tight]⟩
  exact readExpr_complete _ skip tol m rest f hwf hf

example : cmdSig (-1) (-1) [105, 110] = (0, 0) := by decide   -- `\in`

/-- The arguments of a special command are read in special mode … -/
theorem special_command_reads_args_in_special_mode (name : Str) (m : Mode)
    (h : memStr name Tables.specialCommands = true) : cmdMode name m = .special := by
  unfold cmdMode; rw [if_pos h]

/-- … which is inherited by every command inside them … -/
theorem special_mode_is_inherited (name : Str) : cmdMode name .special = .special := by
  unfold cmdMode; split <;> rfl

/-- … and there `\begin` and `\end` are plain commands: they open and close nothing, their
groups are ordinary arguments. -/
theorem begin_end_in_special_are_commands (skip : List Str) (tol : Bool) (esc name : Tok)
    (a1 a2 a3 a4 : List Arg) (rest : List Tok) (f : Nat)
    (hn : name.text = sBegin ∨ name.text = sEnd)
    (hwf : WF skip .special (win rest) (.cmd esc name a1 a2 a3 a4) = true)
    (hf : 3 * (toks (.cmd esc name a1 a2 a3 a4) ++ rest).length + 1 ≤ f) :
    readExpr f skip tol .special (esc :: name :: (toksA a1 ++ (toksA a2 ++ (toksA a3 ++ toksA a4))) ++ rest) =
      .ok (.cmd name.text
        (treesA .bracket a1 ++ (treesA .brace a2 ++ (treesA .bracket a3 ++ treesA .brace a4))) [] esc.pos,
        rest) := by
  have h := readExpr_complete _ skip tol .special rest f hwf hf
  have hs : strip name.text = name.text := by
    rcases hn with h | h <;> rw [h] <;> decide
  simp only [tree, hs] at h
  exact h

/-- **An `\item` owns exactly the content up to the next `\item`, `\end`, unmatched `}` or
the end of input**: its node carries `trees b`; what follows (`rest`) starts with such a
terminator; and no element of `b` starts with one. -/
theorem item_owns_up_to_stop (skip : List Str) (tol : Bool) (m : Mode) (esc name : Tok)
    (a1 a2 a3 a4 : List Arg) (b : List Elem) (rest : List Tok) (f : Nat)
    (hwf : WF skip m (win rest) (.item esc name a1 a2 a3 a4 b) = true)
    (hf : 3 * (toks (.item esc name a1 a2 a3 a4 b) ++ rest).length + 1 ≤ f) :
    readExpr f skip tol m (toks (.item esc name a1 a2 a3 a4 b) ++ rest) =
      .ok (.cmd (strip name.text)
        (treesA .bracket a1 ++ (treesA .brace a2 ++ (treesA .bracket a3 ++ treesA .brace a4)))
        (trees b) esc.pos, rest)
    ∧ itemStop rest = true
    ∧ ∀ e ∈ b, (firstTok e).cat ≠ .GroupEnd ∧ nameText e ≠ some sEnd ∧ nameText e ≠ some sItem := by
  obtain ⟨-, -, -, -, -, -, hb, hstop⟩ := WF_item.1 hwf
  refine ⟨readExpr_complete _ skip tol m rest f hwf hf, by rw [← itemStop_win]; exact hstop, ?_⟩
  intro e he
  simpa [startOK, and_assoc] using (WFs_mem hb he).2

private def t (s : Str) (p : Nat) (c : TC) : Tok := ⟨s, p, c⟩
private def sItemize : Str := [105, 116, 101, 109, 105, 122, 101]
private def sVerbatim : Str := [118, 101, 114, 98, 97, 116, 105, 109]

/-- `\begin{itemize}\item a $x$\item[b] c\end{itemize}` -/
def exList : Doc :=
  [.env (t [92] 0 .Escape) (t sBegin 1 .CommandName)
    ⟨none, t [123] 6 .GroupBegin, t sItemize 7 .Text, t [125] 14 .GroupEnd⟩ [] [] []
    [.item (t [92] 15 .Escape) (t sItem 16 .CommandName) [] [] [] []
       [.leaf (t [32, 97, 32] 20 .Text),
        .math .dollar (t [36] 23 .MathSwitch) [.leaf (t [120] 24 .Text)] (t [36] 25 .MathSwitch)],
     .item (t [92] 26 .Escape) (t sItem 27 .CommandName)
       [.mk none (t [91] 31 .BracketBegin) [.leaf (t [98] 32 .Text)] (t [93] 33 .BracketEnd)] [] [] []
       [.leaf (t [32, 99] 34 .Text)]]
    (t [92] 36 .Escape) (t sEnd 37 .CommandName)
    ⟨none, t [123] 40 .GroupBegin, t sItemize 41 .Text, t [125] 48 .GroupEnd⟩]

def srcList : Str := [92, 98, 101, 103, 105, 110, 123, 105, 116, 101, 109, 105, 122, 101, 125, 92,
  105, 116, 101, 109, 32, 97, 32, 36, 120, 36, 92, 105, 116, 101, 109, 91, 98, 93, 32, 99, 92, 101,
  110, 100, 123, 105, 116, 101, 109, 105, 122, 101, 125]

theorem tokList : tokenize srcList = some (toksD exList) := by decide +kernel
theorem wfList : WFD Tables.skipEnvNames exList = true := by decide +kernel

example : tokenize srcList = some (toksD exList) := tokList
example : WFD Tables.skipEnvNames exList = true := wfList
example : treeD exList =
    [.nenv sItemize []
      [.cmd sItem [] [.text [32, 97, 32] 20, .math .dollar [.text [120] 24] 23] 15,
       .cmd sItem [.group .bracket [.text [98] 32] 31] [.text [32, 99] 34] 26] 0] := by rfl
example : parse false [] srcList = .ok (treeD exList) :=
  parse_complete false [] srcList exList tokList wfList

/-- `\foo [a] {b}x`: a command with spaced arguments; the spacers are not part of the tree. -/
def exSpaced : Doc :=
  [.cmd (t [92] 0 .Escape) (t [102, 111, 111] 1 .CommandName)
     [.mk (some (t [32] 4 .MergedSpacer)) (t [91] 5 .BracketBegin) [.leaf (t [97] 6 .Text)] (t [93] 7 .BracketEnd)]
     [.mk (some (t [32] 8 .MergedSpacer)) (t [123] 9 .GroupBegin) [.leaf (t [98] 10 .Text)] (t [125] 11 .GroupEnd)]
     [] [],
   .leaf (t [120] 12 .Text)]

def srcSpaced : Str := [92, 102, 111, 111, 32, 91, 97, 93, 32, 123, 98, 125, 120]

theorem tokSpaced : tokenize srcSpaced = some (toksD exSpaced) := by decide +kernel
theorem wfSpaced : WFD Tables.skipEnvNames exSpaced = true := by decide +kernel

example : tokenize srcSpaced = some (toksD exSpaced) := tokSpaced
example : WFD Tables.skipEnvNames exSpaced = true := wfSpaced
example : parse true [] srcSpaced =
    .ok [.cmd [102, 111, 111] [.group .bracket [.text [97] 6] 5, .group .brace [.text [98] 10] 9] [] 0,
         .text [120] 12] :=
  parse_complete true [] srcSpaced exSpaced tokSpaced wfSpaced

/-- `\newcommand{\x}{\begin{y}}`: the `\begin` is a command with one argument. -/
def exSpecial : Doc :=
  [.cmd (t [92] 0 .Escape) (t [110, 101, 119, 99, 111, 109, 109, 97, 110, 100] 1 .CommandName) []
     [.mk none (t [123] 11 .GroupBegin)
        [.cmd (t [92] 12 .Escape) (t [120] 13 .CommandName) [] [] [] []] (t [125] 14 .GroupEnd),
      .mk none (t [123] 15 .GroupBegin)
        [.cmd (t [92] 16 .Escape) (t sBegin 17 .CommandName) []
          [.mk none (t [123] 22 .GroupBegin) [.leaf (t [121] 23 .Text)] (t [125] 24 .GroupEnd)] [] []]
        (t [125] 25 .GroupEnd)]
     [] []]

def srcSpecial : Str := [92, 110, 101, 119, 99, 111, 109, 109, 97, 110, 100, 123, 92, 120, 125, 123,
  92, 98, 101, 103, 105, 110, 123, 121, 125, 125]

theorem tokSpecial : tokenize srcSpecial = some (toksD exSpecial) := by decide +kernel
theorem wfSpecial : WFD Tables.skipEnvNames exSpecial = true := by decide +kernel

example : tokenize srcSpecial = some (toksD exSpecial) := tokSpecial
example : WFD Tables.skipEnvNames exSpecial = true := wfSpecial
example : parse false [] srcSpecial =
    .ok [.cmd [110, 101, 119, 99, 111, 109, 109, 97, 110, 100]
      [.group .brace [.cmd [120] [] [] 12] 11,
       .group .brace [.cmd sBegin [.group .brace [.text [121] 23] 22] [] 16] 15] [] 0] :=
  parse_complete false [] srcSpecial exSpecial tokSpecial wfSpecial

/-- `\begin{verbatim}$ {\end{verbatim}`: unbalanced material in a verbatim-like body. -/
def exVerb : Doc :=
  [.venv (t [92] 0 .Escape) (t sBegin 1 .CommandName)
     ⟨none, t [123] 6 .GroupBegin, t sVerbatim 7 .Text, t [125] 15 .GroupEnd⟩ [] [] []
     [t [36] 16 .MathSwitch, t [32] 17 .MergedSpacer, t [123] 18 .GroupBegin]
     [t [92] 19 .Escape, t sEnd 20 .CommandName, t [123] 23 .GroupBegin, t sVerbatim 24 .Text,
      t [125] 32 .GroupEnd]]

def srcVerb : Str := [92, 98, 101, 103, 105, 110, 123, 118, 101, 114, 98, 97, 116, 105, 109, 125, 36,
  32, 123, 92, 101, 110, 100, 123, 118, 101, 114, 98, 97, 116, 105, 109, 125]

theorem tokVerb : tokenize srcVerb = some (toksD exVerb) := by decide +kernel
theorem wfVerb : WFD Tables.skipEnvNames exVerb = true := by decide +kernel

example : tokenize srcVerb = some (toksD exVerb) := tokVerb
example : WFD Tables.skipEnvNames exVerb = true := wfVerb
example : parse false [] srcVerb = .ok [.nenv sVerbatim [] [.text [36, 32, 123] 16] 0] :=
  parse_complete false [] srcVerb exVerb tokVerb wfVerb

/-- The conditions bite: `\foo{a}[b]` with the bracket meant as text is *not* well-formed
(the reader would absorb it), while after a second brace group it is. -/
example : WFD [] [.cmd (t [92] 0 .Escape) (t [102, 111, 111] 1 .CommandName) []
    [.mk none (t [123] 4 .GroupBegin) [] (t [125] 5 .GroupEnd)] [] [],
    .leaf (t [91] 6 .BracketBegin)] = false := by decide
example : WFD [] [.cmd (t [92] 0 .Escape) (t [102, 111, 111] 1 .CommandName) []
    [.mk none (t [123] 4 .GroupBegin) [] (t [125] 5 .GroupEnd)]
    [.mk none (t [91] 6 .BracketBegin) [] (t [93] 7 .BracketEnd)]
    [.mk none (t [123] 8 .GroupBegin) [] (t [125] 9 .GroupEnd)],
    .leaf (t [91] 10 .BracketBegin)] = true := by decide

/-- The look-ahead of `read_env` bites: `\begin{equation}\in{\item}\end{equation}` is not
well-formed – the peek after `\in` reads `{\item}` as an argument *in math mode*, where `\item`
is an assertion error – although the group itself would be read in non-math mode. In an
environment that is not a math environment the same body is fine. -/
private def sEquation : Str := [101, 113, 117, 97, 116, 105, 111, 110]
def exPeek (name : Str) (p : Nat) : Doc :=
  [.env (t [92] 0 .Escape) (t sBegin 1 .CommandName)
    ⟨none, t [123] 6 .GroupBegin, t name 7 .Text, t [125] (7 + p) .GroupEnd⟩ [] [] []
    [.cmd (t [92] (8 + p) .Escape) (t [105, 110] (9 + p) .CommandName) [] [] [] [],
     .group (t [123] (11 + p) .GroupBegin)
       [.item (t [92] (12 + p) .Escape) (t sItem (13 + p) .CommandName) [] [] [] [] []]
       (t [125] (17 + p) .GroupEnd)]
    (t [92] (18 + p) .Escape) (t sEnd (19 + p) .CommandName)
    ⟨none, t [123] (22 + p) .GroupBegin, t name (23 + p) .Text, t [125] (23 + p + p) .GroupEnd⟩]

def srcPeekEq : Str := [92, 98, 101, 103, 105, 110, 123, 101, 113, 117, 97, 116, 105, 111, 110, 125, 92,
  105, 110, 123, 92, 105, 116, 101, 109, 125, 92, 101, 110, 100, 123, 101, 113, 117, 97, 116, 105, 111,
  110, 125]
def srcPeekA : Str := [92, 98, 101, 103, 105, 110, 123, 97, 125, 92, 105, 110, 123, 92, 105, 116, 101,
  109, 125, 92, 101, 110, 100, 123, 97, 125]

theorem tokPeekA : tokenize srcPeekA = some (toksD (exPeek [97] 1)) := by decide +kernel
theorem wfPeekA : WFD Tables.skipEnvNames (exPeek [97] 1) = true := by decide +kernel

example : tokenize srcPeekEq = some (toksD (exPeek sEquation 8)) := by decide +kernel
example : WFD Tables.skipEnvNames (exPeek sEquation 8) = false := by decide +kernel
example : readTex 14 Tables.skipEnvNames false (toksD (exPeek sEquation 8)) = .error .assertion := by
  decide +kernel
example : tokenize srcPeekA = some (toksD (exPeek [97] 1)) := tokPeekA
example : WFD Tables.skipEnvNames (exPeek [97] 1) = true := wfPeekA
example : parse false [] srcPeekA = .ok (treeD (exPeek [97] 1)) :=
  parse_complete false [] srcPeekA _ tokPeekA wfPeekA

end TexSoup.C02
