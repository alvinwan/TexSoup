import TexSoupProofs.EditLemmasSearch
/-!
# C14 – renaming, `.string =` and `.args =` change exactly their part of the document

"Renaming a command or environment, assigning the string of a single-argument command or of
a text-only environment, or assigning/reordering/slicing a node's argument list changes
exactly that part of the serialised document (both \begin and \end for an environment) and
nothing else. The change is visible to subsequent searches, and re-parsing the new text
yields a tree that shows the same change."

The target is the node at a non-root path `p` (`getAtRoot es p = some y`), `k` its offset in
the document text (`offAtRoot es p = some k`). Definitions are in
`TexSoupProofs/EditLemmas*.lean` (`argsPre`, `stringSpan`, `Expr.head`, `plainName`).

The re-parse clause ("re-parsing the new text shows the same change") needs the completeness of
the parser; it is proved in `Properties/C14Grammar.lean` for documents of the grammar and in
`Properties/AllInputs.lean`, `AllInputs2.lean` for every strictly parsing representable input.
-/
namespace TexSoup.C14
open TexSoup TexSoup.Edit

/-- `node.name = new` on a command: exactly the name span (after the backslash) is
replaced; the node at `p` is the same command under the new name. -/
theorem rename_splice_cmd (es : List Expr) (p : Path) (old new : Str) (a b : List Expr) (pos : Int)
    (hp : p ≠ []) (hy : getAtRoot es p = some (.cmd old a b pos)) :
    ∃ k, offAtRoot es p = some k ∧
      getAtRoot (applyEdit es (.rename p new)) p = some (.cmd new a b pos) ∧
      serL (applyEdit es (.rename p new)) =
        (serL es).take (k + 1) ++ (new ++ (serL es).drop (k + 1 + old.length)) :=
  node_edit_splice (C := [92]) (D := serL a ++ serL b) hp hy rfl (applyEditE_rename new hp)
    (by simp [ser]) (by simp [ser])

example : ∃ es p old a b pos, p ≠ [] ∧ getAtRoot es p = some (.cmd old a b pos) :=
  ⟨[.cmd [120] [] [] 0], [.body 0], _, _, _, _, by simp, rfl⟩

/-- `node.name = new` on a named environment: exactly the two name spans (inside
`\begin{..}` and inside `\end{..}`) are replaced, by the same text; the `}`, the arguments,
the contents and `\end{` between them (`1 + |args| + |body| + 5` characters) stay. -/
theorem rename_splice_env (es : List Expr) (p : Path) (old new : Str) (a b : List Expr) (pos : Int)
    (hp : p ≠ []) (hy : getAtRoot es p = some (.nenv old a b pos)) :
    ∃ k, offAtRoot es p = some k ∧
      getAtRoot (applyEdit es (.rename p new)) p = some (.nenv new a b pos) ∧
      serL (applyEdit es (.rename p new)) =
        (serL es).take (k + 7) ++ (new ++
          (((serL es).drop (k + 7 + old.length)).take (1 + (serL a).length + (serL b).length + 5) ++
          (new ++ (serL es).drop
            (k + 7 + old.length + (1 + (serL a).length + (serL b).length + 5) + old.length)))) := by
  obtain ⟨A, B, hser, hoff, _, hser', hget⟩ :=
    node_edit (y' := .nenv new a b pos) hp hy rfl (applyEditE_rename new hp)
  exact ⟨A.length, hoff, hget, frame_splice2 (A := A ++ strBegin)
    (E := 125 :: (serL a ++ (serL b ++ strEnd))) (B := 125 :: B) (by rw [hser]; simp [ser])
    (by rw [hser']; simp [ser]) (by simp [strBegin]) (by simp [strEnd]; omega)⟩

example : ∃ es p old a b pos, p ≠ [] ∧ getAtRoot es p = some (.nenv old a b pos) :=
  ⟨[.nenv [97] [] [.text [116] 9] 0], [.body 0], _, _, _, _, by simp, rfl⟩

/-- `node.string = s`: for a command with exactly one argument the contents of that
argument, for an environment whose filtered contents are exactly one text its own contents
(`stringSpan y = some (o, len)`: relative offset and length of that span), are replaced by
`s`; nothing else changes. -/
theorem setString_splice (es : List Expr) (p : Path) (y : Expr) (o len : Nat) (s : Str)
    (hp : p ≠ []) (hy : getAtRoot es p = some y) (hs : stringSpan y = some (o, len)) :
    ∃ k, offAtRoot es p = some k ∧
      serL (applyEdit es (.setString p s)) =
        (serL es).take (k + o) ++ (s ++ (serL es).drop (k + o + len)) := by
  obtain ⟨st, l, hsite, hl, hi, hoff, hlen⟩ := stringSpan_site hs
  obtain ⟨e', l', k, es', he', hl', hd, hoff', _, happ, hser⟩ :=
    site_splice (siteOf_setString s hp hy hsite)
  cases hy.symm.trans he'
  cases hl.symm.trans hl'
  cases p with
  | nil => exact absurd rfl hp
  | cons t q =>
    simp only [siteOffRoot, hy, hoff] at hoff'
    cases hk : offAtRoot es (t :: q) with
    | none => simp [hk] at hoff'
    | some k0 =>
      simp only [hk, optAdd_some] at hoff'
      cases hoff'
      refine ⟨k0, rfl, ?_⟩
      rw [happ, hser, hi]
      simp [hlen, ser]

example : ∃ es p y o len, p ≠ [] ∧ getAtRoot es p = some y ∧ stringSpan y = some (o, len) :=
  ⟨[.cmd [120] [.group .brace [.text [97] 3] 2] [] 0], [.body 0], _, 3, 1, by simp, rfl, by decide +kernel⟩

/-- `node.args = TexArgs(as)` on a command or named environment: exactly the span of the
arguments (after the name, resp. after `\begin{name}`) is replaced by the text of the new
arguments. -/
theorem setArgs_splice (es : List Expr) (p : Path) (y : Expr) (as : List Expr)
    (hp : p ≠ []) (hy : getAtRoot es p = some y) (ha : y.hasArgs = true) :
    ∃ k, offAtRoot es p = some k ∧
      getAtRoot (applyEdit es (.setArgs p as)) p = some (y.setArgs as) ∧
      serL (applyEdit es (.setArgs p as)) =
        (serL es).take (k + (argsPre y).length) ++
          (serL as ++ (serL es).drop (k + (argsPre y).length + (serL y.args).length)) :=
  node_edit_splice hp hy (setArgsE_eq as ha) (applyEditE_setArgs as hp) (ser_args y ha)
    (ser_setArgs y as ha)

example : ∃ es p y, p ≠ [] ∧ getAtRoot es p = some y ∧ y.hasArgs = true :=
  ⟨[.cmd [120] [.group .brace [.text [97] 3] 2] [] 0], [.body 0], _, by simp, rfl, rfl⟩

/-- "... and nothing else": after any of the three edits (successful or refused) every path
that leaves the path to the target leads to the same node as before. -/
theorem node_edit_preserves_others (es : List Expr) (p r : Path) (hp : p ≠ [])
    (h1 : ¬ p <+: r) (h2 : ¬ r <+: p) (n s : Str) (as : List Expr) :
    getAtRoot (applyEdit es (.rename p n)) r = getAtRoot es r ∧
    getAtRoot (applyEdit es (.setString p s)) r = getAtRoot es r ∧
    getAtRoot (applyEdit es (.setArgs p as)) r = getAtRoot es r :=
  ⟨node_edit_paths (applyEditE_rename n hp) h1 h2,
   node_edit_paths (applyEditE_setString s hp) h1 h2,
   node_edit_paths (applyEditE_setArgs as hp) h1 h2⟩

example : ∃ (p r : Path), p ≠ [] ∧ ¬ p <+: r ∧ ¬ r <+: p :=
  ⟨[.body 0], [.body 1], by simp, by decide +kernel, by decide +kernel⟩

/-- Renaming keeps everything below the renamed node (its arguments and contents). -/
theorem rename_preserves_below (es : List Expr) (p : Path) (n : Str) (y y' : Expr) (hp : p ≠ [])
    (hy : getAtRoot es p = some y) (hr : renameE n y = some y') (s : Step) (r : Path) :
    getAtRoot (applyEdit es (.rename p n)) (p ++ s :: r) = getAtRoot es (p ++ s :: r) := by
  obtain ⟨_, _, _, _, hsome, _, _⟩ := node_edit hp hy hr (applyEditE_rename n hp)
  obtain ⟨_, _, _, hargs, hbody⟩ := renameE_facts hr
  have hs : stepGet y' s = stepGet y s := by cases s <;> simp only [stepGet, hargs, hbody]
  rw [applyEditE_rename n hp] at hsome
  unfold getAtRoot
  rw [getAt_updAt_below hy hr hsome, getAt_append, show getAt (rootWrap es) p = some y from hy,
    Option.bind_some, getAt_cons, getAt_cons, hs]

example : ∃ es p n y y', p ≠ [] ∧ getAtRoot es p = some y ∧ renameE n y = some y' :=
  ⟨[.cmd [120] [] [] 0], [.body 0], [121], _, _, by simp, rfl, rfl⟩

/-- The change is visible to subsequent searches. For plain names (`find_all('name')`, no
`{`/`[`), comparing results through `Expr.head` (kind, name, position – the ancestors of the
renamed node are results too and contain it): the results for the new name are the old ones
plus exactly the renamed node, at its place in the traversal order; the results for the old
name are the old ones minus exactly it. -/
theorem rename_search (es : List Expr) (p : Path) (y y' : Expr) (old new : Str)
    (hp : p ≠ []) (hy : getAtRoot es p = some y) (hr : renameE new y = some y')
    (hn : y.name = old) (hold : plainName old = true) (hnew : plainName new = true)
    (hne : old ≠ new) :
    getAtRoot (applyEdit es (.rename p new)) p = some y' ∧
    ∃ F1 F2 G1 G2,
      (findAllRoot (.name new) es).map Expr.head = F1 ++ F2 ∧
      (findAllRoot (.name new) (applyEdit es (.rename p new))).map Expr.head
        = F1 ++ y'.head :: F2 ∧
      (findAllRoot (.name old) es).map Expr.head = G1 ++ y.head :: G2 ∧
      (findAllRoot (.name old) (applyEdit es (.rename p new))).map Expr.head = G1 ++ G2 := by
  obtain ⟨_, _, _, _, hsome, _, hget⟩ := node_edit hp hy hr (applyEditE_rename new hp)
  obtain ⟨ha, ha', hn', hargs, hbody⟩ := renameE_facts hr
  have hd : descOf y' = descOf y := by rw [descOf_args_body, descOf_args_body, hargs, hbody]
  rw [applyEditE_rename new hp] at hsome
  obtain ⟨⟨l1, l2, h1, h2⟩, _⟩ :=
    desc_hole hr hd (isText_false_of_hasArgs ha) (isText_false_of_hasArgs ha') hp hy hsome
  rw [← descRoot_eq_wrap] at h1 h2
  refine ⟨hget, l1.filter (nameHit new), l2.filter (nameHit new),
    l1.filter (nameHit old), l2.filter (nameHit old), ?_⟩
  have hit : ∀ s, plainName s = true →
      nameHit s y.head = (old == s) ∧ nameHit s y'.head = (new == s) := fun s hs => by
    rw [nameHit_head hs, nameHit_head hs, nameHit_of_hasArgs hs ha, nameHit_of_hasArgs hs ha',
      hn, hn']
    exact ⟨rfl, rfl⟩
  have hon : (old == new) = false := beq_false_of_ne hne
  have hno : (new == old) = false := beq_false_of_ne (Ne.symm hne)
  simp only [findAllRoot, findAllIn_map_head hnew, findAllIn_map_head hold, h1, h2,
    List.filter_append, List.filter_cons, hit new hnew, hit old hold, hon, hno, beq_self_eq_true,
    if_true, Bool.false_eq_true, if_false, and_self]

example : ∃ es p y y' old new, p ≠ [] ∧ getAtRoot es p = some y ∧ renameE new y = some y' ∧
    y.name = old ∧ plainName old = true ∧ plainName new = true ∧ old ≠ new :=
  ⟨[.cmd [120] [] [] 0], [.body 0], _, _, [120], [121], by simp, rfl, rfl, rfl, by decide +kernel,
    by decide +kernel, by decide +kernel⟩

/-- `count`: one more result for the new name, one less for the old name. -/
theorem rename_count (es : List Expr) (p : Path) (y y' : Expr) (old new : Str)
    (hp : p ≠ []) (hy : getAtRoot es p = some y) (hr : renameE new y = some y')
    (hn : y.name = old) (hold : plainName old = true) (hnew : plainName new = true)
    (hne : old ≠ new) :
    (findAllRoot (.name new) (applyEdit es (.rename p new))).length
      = (findAllRoot (.name new) es).length + 1 ∧
    (findAllRoot (.name old) (applyEdit es (.rename p new))).length + 1
      = (findAllRoot (.name old) es).length := by
  obtain ⟨_, F1, F2, G1, G2, h1, h2, h3, h4⟩ := rename_search es p y y' old new hp hy hr hn hold hnew hne
  have e1 := congrArg List.length h1
  have e2 := congrArg List.length h2
  have e3 := congrArg List.length h3
  have e4 := congrArg List.length h4
  simp only [List.length_map, List.length_append, List.length_cons] at e1 e2 e3 e4
  omega

example : (findAllRoot (.name [121]) (applyEdit [.cmd [120] [] [] 0] (.rename [.body 0] [121]))).length = 1 := by
  decide

end TexSoup.C14
