import TexSoupProofs.Reader.Leaves
import TexSoupProofs.TokLemmas.FirstTok
import TexSoupProofs.Properties.TestVectors
/-!
# C12 – Math regions are delimited correctly and tolerate unbalanced brackets

Proved here: (tokenizer, all inputs) `$$` is taken greedily, a single `$` otherwise; `\$` is an
escaped symbol, never a switch; `\(`, `\)`, `\[`, `\]` are the asymmetric switches; every entry
of the sizing table is one command-name token when it follows a backslash, independently of
the table's iteration order (the table is prefix-free: `C17.iteration_order_irrelevant`);
(reader, all token lists) an opener,
any run of leaf tokens – unbalanced brackets included – and the matching closer give one math
node of that kind with exactly those leaves. Bodies containing commands, groups and nested
environments are `C12Grammar.lean` (`math_region_is_one_node`).
-/
namespace TexSoup.C12

theorem double_dollar_greedy (pt : Option TC) (prev : Option Ch) (pos : Nat) (c0 c1 : Ch) (r : Str)
    (h0 : catOf c0 = .MathSwitch) (h1 : catOf c1 = .MathSwitch) :
    pass Tables.tokenizerOrder pt ⟨prev, pos, c0 :: c1 :: r⟩ =
      .tok ⟨[c0, c1], pos, .DisplayMathSwitch⟩ ⟨some c1, pos + 2, r⟩ :=
  first_mathSwitch_two pt prev pos c0 c1 r h0 h1

theorem escaped_dollar_is_no_switch (pt : Option TC) (prev : Option Ch) (pos : Nat) (c0 c1 : Ch) (r : Str)
    (h0 : catOf c0 = .Escape) (h1 : isEscapable (catOf c1) = true) :
    pass Tables.tokenizerOrder pt ⟨prev, pos, c0 :: c1 :: r⟩ =
      .tok ⟨[c0, c1], pos, .EscapedComment⟩ ⟨some c1, pos + 2, r⟩ :=
  first_escaped pt prev pos c0 c1 r h0 h1

theorem dollar_facts : catOf 36 = .MathSwitch ∧ isEscapable (catOf 36) = true := by decide +kernel

theorem asymmetric_switch (pt : Option TC) (prev : Option Ch) (pos : Nat) (c0 c1 : Ch) (r : Str)
    (t : TC) (h0 : catOf c0 = .Escape) (h1 : asymSwitch (catOf c1) = some t) :
    pass Tables.tokenizerOrder pt ⟨prev, pos, c0 :: c1 :: r⟩ =
      .tok ⟨[c0, c1], pos, t⟩ ⟨some c1, pos + 2, r⟩ :=
  first_asymSwitch pt prev pos c0 c1 r t h0 h1

/-- every sizing command (prefix + delimiter) is one token after a backslash -/
theorem sizing_command_is_one_token (pt : Option TC) (p : Ch) (pos : Nat) (point r : Str)
    (hp : point ∈ Tables.punctuationCommands) (hesc : catOf p = .Escape) :
    pass Tables.tokenizerOrder pt ⟨some p, pos, point ++ r⟩ =
      .tok ⟨point, pos, .PunctuationCommandName⟩ ⟨lastD point (some p), pos + point.length, r⟩ :=
  first_punctuation pt p pos point r hesc hp

/-- one math node of the opener's kind, body = the enclosed leaves, nothing has to balance -/
theorem math_region (skip : List Str) (tol : Bool) (mode : Mode) (k : MKind) (o c : Tok)
    (b rest : List Tok) (x : Nat) (ho : mkindOfBegin o.cat = some k)
    (hb : ∀ t ∈ b, isLeafTok t = true ∧ (t.cat == k.tokEnd) = false) (hc : (c.cat == k.tokEnd) = true) :
    readExpr (b.length + 3 + x) skip tol mode (o :: (b ++ c :: rest)) =
      .ok (.math k (b.map leafOf) o.pos, rest) :=
  math_region_of_leaves skip tol mode k o c b rest x ho hb hc

/-! Non-vacuity: `$a[b$` – an unmatched bracket inside inline math. -/
example : readExpr 8 [] false .nonMath
    [⟨[36], 0, .MathSwitch⟩, ⟨[97], 1, .Text⟩, ⟨[91], 2, .BracketBegin⟩, ⟨[98], 3, .Text⟩,
     ⟨[36], 4, .MathSwitch⟩] =
    .ok (.math .dollar [.text [97] 1, .text [91] 2, .text [98] 3] 0, []) := by decide +kernel

end TexSoup.C12
