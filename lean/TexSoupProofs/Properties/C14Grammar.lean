import TexSoupProofs.Complete.RenameTree
import TexSoupProofs.Complete.RenameEdit
import TexSoupProofs.Complete.RenameSep
import TexSoupProofs.Complete.SetStrTree
import TexSoupProofs.Complete.SetStrSep
import TexSoupProofs.Complete.SetArgs
import TexSoupProofs.Properties.C16Grammar
import TexSoupProofs.Properties.TestVectors
/-!
# C14 for documents of the grammar – re-parsing the text of a renamed tree shows the same change

"Renaming a command or environment … re-parsing the new text yields a tree that shows the same
change."  Proved here for every well-formed document `d` of the grammar (`Gram.WFD`), in both
tolerance modes, for renaming commands *and* environments:

 * `Gram.rename r` (`TexSoupModel/GrammarEdit.lean`) replaces the text of the name token of the
   selected commands and of the two name tokens (`\begin{..}`, `\end{..}`) of the selected
   environments; `renameCmds p new` / `renameEnvs p new` are its special cases with a predicate
   on the name token. `\item`s, verbatim-like environments and raw verbatim bodies are never
   touched.
 * `rename_keeps_wf`: the renamed document is well-formed under the side conditions `Ren.OK`
   (no frame condition can tell the names apart: `sameRole` for commands, `envRole` + skip list
   for environments; the look-ahead windows contain a name only after a backslash, where it is
   compared with `end` / `item` only).
 * `tree_of_renamed`: its tree is `renameTreeL` of the tree of `d` – exactly the selected
   `.cmd` / `.nenv` nodes carry the new name, all arguments, contents, nesting and positions are
   those of `d` (selection by what the tree shows of a node: name and position, `Ren.ofQ`).
 * `rename_reparse`: parsing the serialised text of the renamed tree succeeds, gives a tree of
   the same shape (`shapeL`: equal up to positions, which are now offsets in the new text) and
   the same serialisation.
 * `rename_command_reparse` / `rename_environment_reparse`: the same, stated with the edit model
   of C05/C14/C15 – the renamed tree is `applyEdit (treeD d) (.rename p new)` for the path `p` of
   the node, provided no other node has the same name at the same position
   (`selCountL … = 1`; `Complete/RenameEdit.lean`).
 * `rename_command_reparse_of_source` / `…_environment_…`: from the tokenizer output of the
   source instead of the renamed token list, see below.

## Side conditions (all decidable)

Commands, `sameRole old new`: neither name is `item`; both or neither are `end`; both or neither
are `begin`; `SIGNATURES.get` gives the same signature; both or neither are special commands
(`\newcommand` …: argument mode). Plus `strip new = new`.
Environments, `envRole old new`: `strip new = new`; both or neither are math environment names;
and neither `old` nor `new` is in the skip list in force (`Tables.skipEnvNames ++ skip`).
Document: `envNamesPlainS d`, `cmdNamesPlainS d` – names are written without surrounding blanks
(the tree shows `strip name`; true of every tokenizer output, `cmdNamesPlainS_of_separated`).
Each is needed: `exItem` / `exSig` below rename to `item` resp. to a fixed-signature name and
the re-parsed tree differs.

`Separated none (toksD (squeezeD (renameD r d)))` – the squeezed token list of the renamed
document is a tokenizer output – is a hypothesis of `rename_reparse`, `rename_command_reparse`,
`rename_environment_reparse`. The `…_of_source` theorems derive it (`Complete/RenameSep.lean`,
`TokLemmas/NameVar.lean`) from: the token list of `d` is a tokenizer output
(`Separated none (toksD d)`) in which no command name is a bare sizing prefix
(`C16G.noBareSizing`, the side condition of C16); for commands `goodName old`, `goodName new`
(a letter, then letters or `*`) and `new ∉ Tables.sizePrefix`; for environments
`letterStart old` and `goodText new` (no ignored first character, no character at which a text
token ends – backslash, braces, brackets, `$`, `%` –, no leading blank run that would be split
off). Under these conditions `strip new = new` and `cmdNamesPlainS d` need not be assumed.

## The other two assignments, and examples

The same clause for `node.string = s` (`set_string_command_reparse`,
`set_string_environment_reparse`, `…_of_source`) and for `node.args = …`
(`set_args_command_reparse`, `set_args_environment_reparse`), each introduced at its section
below; then worked examples of the re-parse theorems and counterexamples for several of the side conditions.
-/
namespace TexSoup.C14G
open TexSoup TexSoup.Gram

def qAt (old : Str) (pos : Int) : Str → Int → Bool := fun s p => s == old && p == pos
def qNone : Str → Int → Bool := fun _ _ => false

/-- a node of the document is not the root wrapper, which stands at `-1` -/
theorem qAt_root {old : Str} {pos : Int} (h : pos ≠ -1) : qAt old pos [] (-1) = false := by
  simp only [qAt, Bool.and_eq_false_iff]; right; simpa using fun e => h e.symm

/-- The frame conditions cannot tell the old names from the new ones. -/
theorem rename_keeps_wf (r : Ren) (skip : List Str) (d : Doc) (hwf : WFD skip d = true)
    (hr : r.OK skip) : WFD skip (renameD r d) = true := WFD_rename skip d hwf hr

/-- … when every command whose name token satisfies `p` has the role of `new`. -/
theorem renameCmds_keeps_wf (p : Tok → Bool) (new : Str) (skip : List Str) (d : Doc)
    (hwf : WFD skip d = true) (hp : ∀ n : Tok, p n = true → sameRole n.text new = true) :
    WFD skip (renameCmdsD p new d) = true :=
  WFD_rename skip d hwf ⟨fun _ n h => hp n h, fun _ _ h => (by cases h)⟩

theorem renameEnvs_keeps_wf (p : Tok → Bool) (new : Str) (skip : List Str) (d : Doc)
    (hwf : WFD skip d = true) (hnew : memStr new skip = false)
    (hp : ∀ n : Tok, p n = true → envRole n.text new = true) :
    WFD skip (renameEnvsD p new d) = true :=
  WFD_rename skip d hwf ⟨fun _ _ h => (by cases h), fun _ n h => ⟨hp n h, hnew⟩⟩

/-- **The tree of the renamed document is the tree of the document with exactly the selected
nodes renamed.** -/
theorem tree_of_renamed {qc : Str → Int → Bool} {newc : Str} {qe : Str → Int → Bool} {newe : Str}
    {skip : List Str} (d : Doc) (hwf : WFD skip d = true) (hcn : cmdNamesPlainS d = true)
    (hen : envNamesPlainS d = true) (hq : QOK qc newc qe newe skip) :
    treeD (renameD (Ren.ofQ qc newc qe newe) d) = renameTreeL qc newc qe newe (treeD d) :=
  treeD_rename d hwf hcn hen hq

/-- **Re-parsing the text of the renamed tree shows the same change** (both tolerance modes). -/
theorem rename_reparse (tol : Bool) (skip : List Str) (d : Doc)
    (qc : Str → Int → Bool) (newc : Str) (qe : Str → Int → Bool) (newe : Str)
    (hwf : WFD (Tables.skipEnvNames ++ skip) d = true) (hen : envNamesPlainS d = true)
    (hcn : cmdNamesPlainS d = true) (hq : QOK qc newc qe newe (Tables.skipEnvNames ++ skip))
    (hsq : Separated none (toksD (squeezeD (renameD (Ren.ofQ qc newc qe newe) d)))) :
    ∃ t2, parse tol skip (serL (renameTreeL qc newc qe newe (treeD d))) = .ok t2 ∧
      shapeL t2 = shapeL (renameTreeL qc newc qe newe (treeD d)) ∧
      serL t2 = serL (renameTreeL qc newc qe newe (treeD d)) := by
  have hwf' := WFD_rename _ d hwf hq.ren
  have hen' : envNamesPlainS (renameD (Ren.ofQ qc newc qe newe) d) = true :=
    envNamesPlainS_rename hq.ren d hen
  have h := C16G.reparse_fixed_point tol skip _ hwf' hen' hsq
  rw [treeD_rename d hwf hcn hen hq] at h
  exact h

theorem qok_cmd {old new : Str} {pos : Int} {skip : List Str} (hrole : sameRole old new = true)
    (hnew : strip new = new) : QOK (qAt old pos) new qNone [] skip :=
  ⟨fun s p h => by
      simp only [qAt, Bool.and_eq_true, beq_iff_eq] at h
      rw [h.1]; exact ⟨hrole, hnew⟩,
   fun _ _ h => by cases h⟩

theorem qok_env {old new : Str} {pos : Int} {skip : List Str} (hrole : envRole old new = true)
    (hold : memStr old skip = false) (hnew : memStr new skip = false) :
    QOK qNone [] (qAt old pos) new skip :=
  ⟨fun _ _ h => (by cases h),
   fun s p h => by
      simp only [qAt, Bool.and_eq_true, beq_iff_eq] at h
      rw [h.1]; exact ⟨hrole, hnew, hold⟩⟩

/-- **`node.name = new` on a command, then `str`, then parse.** `p` is the path of a command
node `\old` of the tree of `d`; no other command has this name at this position. Then the text
of the edited tree (`applyEdit … (.rename p new)`, the edit of C14 `rename_splice_cmd`) parses
to a tree of the same shape and the same text. -/
theorem rename_command_reparse (tol : Bool) (skip : List Str) (d : Doc) (p : Path)
    (old new : Str) (a b : List Expr) (pos : Int)
    (hwf : WFD (Tables.skipEnvNames ++ skip) d = true) (hen : envNamesPlainS d = true)
    (hcn : cmdNamesPlainS d = true) (hp : p ≠ [])
    (hget : getAtRoot (treeD d) p = some (.cmd old a b pos))
    (huniq : selCountL (qAt old pos) qNone (treeD d) = 1)
    (hrole : sameRole old new = true) (hnew : strip new = new)
    (hsq : Separated none (toksD (squeezeD (renameD (Ren.ofQ (qAt old pos) new qNone []) d)))) :
    ∃ t2, parse tol skip (serL (applyEdit (treeD d) (.rename p new))) = .ok t2 ∧
      shapeL t2 = shapeL (applyEdit (treeD d) (.rename p new)) ∧
      serL t2 = serL (applyEdit (treeD d) (.rename p new)) := by
  rw [applyEdit_rename_eq (qAt old pos) new qNone [] (treeD d) p _ hp hget
    (.inl ⟨old, a, b, pos, rfl, by simp [qAt], rfl⟩) huniq rfl]
  exact rename_reparse tol skip d _ _ _ _ hwf hen hcn (qok_cmd hrole hnew) hsq

/-- **`node.name = new` on an environment** (both `\begin{..}` and `\end{..}` change). -/
theorem rename_environment_reparse (tol : Bool) (skip : List Str) (d : Doc) (p : Path)
    (old new : Str) (a b : List Expr) (pos : Int)
    (hwf : WFD (Tables.skipEnvNames ++ skip) d = true) (hen : envNamesPlainS d = true)
    (hcn : cmdNamesPlainS d = true) (hp : p ≠ [])
    (hget : getAtRoot (treeD d) p = some (.nenv old a b pos)) (hpos : pos ≠ -1)
    (huniq : selCountL qNone (qAt old pos) (treeD d) = 1)
    (hrole : envRole old new = true)
    (hold : memStr old (Tables.skipEnvNames ++ skip) = false)
    (hnews : memStr new (Tables.skipEnvNames ++ skip) = false)
    (hsq : Separated none (toksD (squeezeD (renameD (Ren.ofQ qNone [] (qAt old pos) new) d)))) :
    ∃ t2, parse tol skip (serL (applyEdit (treeD d) (.rename p new))) = .ok t2 ∧
      shapeL t2 = shapeL (applyEdit (treeD d) (.rename p new)) ∧
      serL t2 = serL (applyEdit (treeD d) (.rename p new)) := by
  rw [applyEdit_rename_eq qNone [] (qAt old pos) new (treeD d) p _ hp hget
    (.inr ⟨old, a, b, pos, rfl, by simp [qAt], rfl⟩) huniq
    (qAt_root hpos)]
  exact rename_reparse tol skip d _ _ _ _ hwf hen hcn (qok_env hrole hold hnews) hsq

def letterStart : Str → Bool
  | c :: _ => catOf c == .Letter
  | [] => false

theorem letterStart_spec {s : Str} (h : letterStart s = true) : ∃ c b, s = c :: b ∧ catOf c = .Letter := by
  cases s with
  | nil => simp [letterStart] at h
  | cons c b => exact ⟨c, b, rfl, by simpa [letterStart] using h⟩

theorem strip_of_goodName {s : Str} (h : goodName s = true) : strip s = s := by
  obtain ⟨_, _, _, _, _, hall⟩ := goodName_spec h
  apply strip_of_no_space
  intro c hc
  have := hall c hc
  simp only [nameCh, isLetterCh, Bool.or_eq_true, beq_iff_eq] at this
  rcases this with h1 | h1
  · exact not_space_of_letter h1
  · rw [h1]; decide

/-- **From the source, general form.** The document is well-formed and its tokens are a
tokenizer output without a bare sizing prefix; the selected and the new names are command names
resp. texts (`Ren.SepOK`) with the same roles (`QOK`). Then the text of the renamed tree parses
to a tree of the same shape and text. -/
theorem rename_reparse_of_source (tol : Bool) (skip : List Str) (d : Doc)
    (qc : Str → Int → Bool) (newc : Str) (qe : Str → Int → Bool) (newe : Str)
    (hwf : WFD (Tables.skipEnvNames ++ skip) d = true) (hen : envNamesPlainS d = true)
    (hq : QOK qc newc qe newe (Tables.skipEnvNames ++ skip)) (hs : (Ren.ofQ qc newc qe newe).SepOK)
    (hsep : Separated none (toksD d)) (hsz : C16G.noBareSizing (toksD d) = true) :
    ∃ t2, parse tol skip (serL (renameTreeL qc newc qe newe (treeD d))) = .ok t2 ∧
      shapeL t2 = shapeL (renameTreeL qc newc qe newe (treeD d)) ∧
      serL t2 = serL (renameTreeL qc newc qe newe (treeD d)) :=
  rename_reparse tol skip d qc newc qe newe hwf hen (cmdNamesPlainS_of_separated hwf hsep hen) hq
    (separated_squeeze_rename hs hq.ren hwf hsep (C16G.noBareSizing_spec hsz))

theorem sepOK_cmd {old new : Str} {pos : Int} (hold : goodName old = true) (hnew : goodName new = true)
    (hsz : new ∉ Tables.sizePrefix) : (Ren.ofQ (qAt old pos) new qNone []).SepOK :=
  ⟨fun esc n h => by
      simp only [Ren.ofQ, qAt, Bool.and_eq_true, beq_iff_eq] at h
      rw [h.1]; exact ⟨hold, hnew, hsz⟩,
   fun _ _ h => (by cases h)⟩

theorem sepOK_env {old new : Str} {pos : Int} (hold : letterStart old = true) (hnew : goodText new = true) :
    (Ren.ofQ qNone [] (qAt old pos) new).SepOK :=
  ⟨fun _ _ h => (by cases h),
   fun esc nt h => by
      simp only [Ren.ofQ, qAt, Bool.and_eq_true, beq_iff_eq] at h
      rw [h.1]; exact ⟨letterStart_spec hold, hnew⟩⟩

/-- **C14, re-parse clause, commands, from the source.** `d` is a well-formed document whose
tokens are a tokenizer output (no bare sizing prefix, environment names written plainly); `p` is
the path of a command `\old` in its tree, the only command of that name at that position;
`old` and `new` are command names (a letter, then letters or `*`) with the same role, `new` is no
sizing prefix. Then `str` of the tree after `node.name = new` parses, in both tolerance modes,
to a tree of the same shape and the same text. -/
theorem rename_command_reparse_of_source (tol : Bool) (skip : List Str) (d : Doc) (p : Path)
    (old new : Str) (a b : List Expr) (pos : Int)
    (hwf : WFD (Tables.skipEnvNames ++ skip) d = true) (hen : envNamesPlainS d = true)
    (hsep : Separated none (toksD d)) (hsz : C16G.noBareSizing (toksD d) = true) (hp : p ≠ [])
    (hget : getAtRoot (treeD d) p = some (.cmd old a b pos))
    (huniq : selCountL (qAt old pos) qNone (treeD d) = 1)
    (hrole : sameRole old new = true) (hgold : goodName old = true) (hgnew : goodName new = true)
    (hnsz : new ∉ Tables.sizePrefix) :
    ∃ t2, parse tol skip (serL (applyEdit (treeD d) (.rename p new))) = .ok t2 ∧
      shapeL t2 = shapeL (applyEdit (treeD d) (.rename p new)) ∧
      serL t2 = serL (applyEdit (treeD d) (.rename p new)) :=
  rename_command_reparse tol skip d p old new a b pos hwf hen (cmdNamesPlainS_of_separated hwf hsep hen)
    hp hget huniq hrole (strip_of_goodName hgnew)
    (separated_squeeze_rename (sepOK_cmd hgold hgnew hnsz) (qok_cmd hrole (strip_of_goodName hgnew)).ren
      hwf hsep (C16G.noBareSizing_spec hsz))

/-- **C14, re-parse clause, environments, from the source**: `old` starts with a letter, `new` can
stand as one text token (`goodText`, e.g. letters and digits), same role, neither is in the skip
list. -/
theorem rename_environment_reparse_of_source (tol : Bool) (skip : List Str) (d : Doc) (p : Path)
    (old new : Str) (a b : List Expr) (pos : Int)
    (hwf : WFD (Tables.skipEnvNames ++ skip) d = true) (hen : envNamesPlainS d = true)
    (hsep : Separated none (toksD d)) (hsz : C16G.noBareSizing (toksD d) = true) (hp : p ≠ [])
    (hget : getAtRoot (treeD d) p = some (.nenv old a b pos)) (hpos : pos ≠ -1)
    (huniq : selCountL qNone (qAt old pos) (treeD d) = 1)
    (hrole : envRole old new = true)
    (hold : memStr old (Tables.skipEnvNames ++ skip) = false)
    (hnews : memStr new (Tables.skipEnvNames ++ skip) = false)
    (hlold : letterStart old = true) (hgnew : goodText new = true) :
    ∃ t2, parse tol skip (serL (applyEdit (treeD d) (.rename p new))) = .ok t2 ∧
      shapeL t2 = shapeL (applyEdit (treeD d) (.rename p new)) ∧
      serL t2 = serL (applyEdit (treeD d) (.rename p new)) :=
  rename_environment_reparse tol skip d p old new a b pos hwf hen
    (cmdNamesPlainS_of_separated hwf hsep hen) hp hget hpos huniq hrole hold hnews
    (separated_squeeze_rename (sepOK_env hlold hgnew) (qok_env hrole hold hnews).ren
      hwf hsep (C16G.noBareSizing_spec hsz))

/-! ## `node.string = s`

`Gram.setStr r` replaces the contents of the single argument group of the selected commands,
resp. the one-leaf body of the selected argument-less environments, by ONE text token `s`.
No frame condition of the grammar looks at it (`WFD_setStr`: only "it is a `Text` token" is
used), its tree is `mapSelL (strSel …) (strTop s np)` of the tree of `d` (`treeD_setStr`), which
is the edit `.setString p s` of the edit model when the selection hits exactly the node at `p`
(`Complete/MapSel.lean`). The implementation stores the new string without a position (`-1`),
the re-parsed text has a real offset there: the conclusion compares trees without any position
(`bareL`; `shapeL` keeps `-1`). Side condition on `s` for the text to be a tokenizer output:
`goodText s` (first character not ignored; no character at which a text token ends: backslash,
braces, brackets, `$`, `%`; no leading blank run that the tokenizer would split off).
`s` may be blank-free or not, may contain letters directly after the opening brace: the token in
front of it is the opener `{`/`[` resp. the `}` of `\begin{name}`, never a name. -/

theorem bare_setBody_text (x : Expr) (s : Str) (a b : Int) :
    bare (x.setBody [.text s a]) = bare (x.setBody [.text s b]) := by
  cases x <;> simp [Expr.setBody, bare]

theorem bare_strTop (s : Str) (a b : Int) (e : Expr) : bare (strTop s a e) = bare (strTop s b e) := by
  cases e with
  | cmd n as bd p =>
    simp only [strTop, bare]
    congr 1
    induction as with
    | nil => rfl
    | cons x xs ih => simp [bare_setBody_text x s a b, ih]
  | nenv n as bd p => simp [strTop, bare]
  | _ => rfl

/-- **General form**: selection `(qc, qe)` on (name, position); the tree with the new leaves at
position `np`. -/
theorem set_string_reparse_general (tol : Bool) (skip : List Str) (d : Doc)
    (qc qe : Str → Int → Bool) (s : Str) (np : Nat)
    (hwf : WFD (Tables.skipEnvNames ++ skip) d = true) (hen : envNamesPlainS d = true)
    (hcn : cmdNamesPlainS d = true) (hq : SQ qc qe (Tables.skipEnvNames ++ skip))
    (hsq : Separated none (toksD (squeezeD (setStrD (SetS.ofQ qc qe s np) d)))) :
    ∃ t2, parse tol skip (serL (mapSelL (strSel qc qe) (strTop s np) (treeD d))) = .ok t2 ∧
      shapeL t2 = shapeL (mapSelL (strSel qc qe) (strTop s np) (treeD d)) ∧
      serL t2 = serL (mapSelL (strSel qc qe) (strTop s np) (treeD d)) := by
  have hwf' := WFD_setStr (r := SetS.ofQ qc qe s np) rfl _ d hwf
  have hen' : envNamesPlainS (setStrD (SetS.ofQ qc qe s np) d) = true := envNamesPlainS_setStr _ d hen
  have h := C16G.reparse_fixed_point tol skip _ hwf' hen' hsq
  rw [treeD_setStr d hwf hcn hen hq] at h
  exact h

/-- … for the tree of the edit model (new leaf at `-1`), up to positions. -/
theorem set_string_reparse_edit (tol : Bool) (skip : List Str) (d : Doc) (p : Path) (t : Expr)
    (qc qe : Str → Int → Bool) (s : Str)
    (hwf : WFD (Tables.skipEnvNames ++ skip) d = true) (hen : envNamesPlainS d = true)
    (hcn : cmdNamesPlainS d = true) (hq : SQ qc qe (Tables.skipEnvNames ++ skip))
    (hp : p ≠ []) (hget : getAtRoot (treeD d) p = some t) (hsel : strSel qc qe t = true)
    (hset : setStringE s t = some (strTop s (-1) t))
    (huniq : cntSelL (strSel qc qe) (treeD d) = 1) (hroot : qe [] (-1) = false)
    (hsq : Separated none (toksD (squeezeD (setStrD (SetS.ofQ qc qe s 0) d)))) :
    ∃ t2, parse tol skip (serL (applyEdit (treeD d) (.setString p s))) = .ok t2 ∧
      bareL t2 = bareL (applyEdit (treeD d) (.setString p s)) ∧
      serL t2 = serL (applyEdit (treeD d) (.setString p s)) := by
  have hT : applyEdit (treeD d) (.setString p s) = mapSelL (strSel qc qe) (strTop s (-1)) (treeD d) :=
    applyEdit_mapSel _ _ (by simp [applyEditE, hp]) hget hsel hset huniq (by simp [rootWrap, strSel, hroot])
  obtain ⟨t2, h1, h2, h3⟩ := set_string_reparse_general tol skip d qc qe s 0 hwf hen hcn hq hsq
  have hb : bareL (mapSelL (strSel qc qe) (strTop s ((0 : Nat) : Int)) (treeD d)) =
      bareL (mapSelL (strSel qc qe) (strTop s (-1)) (treeD d)) :=
    bareL_mapSelL_congr _ _ _ (bare_strTop s _ _) _
  rw [hT]
  refine ⟨t2, ?_, ?_, ?_⟩
  · rw [← serL_of_bareL_eq hb]; exact h1
  · rw [← hb]; exact bareL_of_shapeL_eq h2
  · rw [← serL_of_bareL_eq hb]; exact h3

theorem sq_cmd {old : Str} {pos : Int} {skip : List Str} (hold : (old == sItem) = false) :
    SQ (qAt old pos) qNone skip :=
  ⟨fun p => by
      show (sItem == old && p == pos) = false
      rw [BEq.comm, hold, Bool.false_and],
   fun _ _ h => (by cases h)⟩

theorem sq_env {old : Str} {pos : Int} {skip : List Str} (hold : memStr old skip = false) :
    SQ qNone (qAt old pos) skip :=
  ⟨fun _ => rfl,
   fun s p h => by
      simp only [qAt, Bool.and_eq_true, beq_iff_eq] at h
      rw [h.1]; exact hold⟩

/-- **`node.string = s` on a single-argument command, then `str`, then parse**
(hypothesis: the squeezed token list of the re-stringed document is a tokenizer output). -/
theorem set_string_command_reparse (tol : Bool) (skip : List Str) (d : Doc) (p : Path)
    (old : Str) (a : Expr) (b : List Expr) (pos : Int) (s : Str)
    (hwf : WFD (Tables.skipEnvNames ++ skip) d = true) (hen : envNamesPlainS d = true)
    (hcn : cmdNamesPlainS d = true) (hp : p ≠ [])
    (hget : getAtRoot (treeD d) p = some (.cmd old [a] b pos)) (hold : (old == sItem) = false)
    (huniq : cntSelL (strSel (qAt old pos) qNone) (treeD d) = 1)
    (hsq : Separated none (toksD (squeezeD (setStrD (SetS.ofQ (qAt old pos) qNone s 0) d)))) :
    ∃ t2, parse tol skip (serL (applyEdit (treeD d) (.setString p s))) = .ok t2 ∧
      bareL t2 = bareL (applyEdit (treeD d) (.setString p s)) ∧
      serL t2 = serL (applyEdit (treeD d) (.setString p s)) :=
  set_string_reparse_edit tol skip d p _ (qAt old pos) qNone s hwf hen hcn (sq_cmd hold) hp hget
    (by simp [strSel, qAt]) (by simp [setStringE, strTop]) huniq rfl hsq

/-- **`node.string = s` on a text-only environment** (no arguments, one non-blank text). -/
theorem set_string_environment_reparse (tol : Bool) (skip : List Str) (d : Doc) (p : Path)
    (old u : Str) (pu pos : Int) (s : Str)
    (hwf : WFD (Tables.skipEnvNames ++ skip) d = true) (hen : envNamesPlainS d = true)
    (hcn : cmdNamesPlainS d = true) (hp : p ≠ [])
    (hget : getAtRoot (treeD d) p = some (.nenv old [] [.text u pu] pos)) (hu : isBlank u = false)
    (hpos : pos ≠ -1) (hold : memStr old (Tables.skipEnvNames ++ skip) = false)
    (huniq : cntSelL (strSel qNone (qAt old pos)) (treeD d) = 1)
    (hsq : Separated none (toksD (squeezeD (setStrD (SetS.ofQ qNone (qAt old pos) s 0) d)))) :
    ∃ t2, parse tol skip (serL (applyEdit (treeD d) (.setString p s))) = .ok t2 ∧
      bareL t2 = bareL (applyEdit (treeD d) (.setString p s)) ∧
      serL t2 = serL (applyEdit (treeD d) (.setString p s)) :=
  set_string_reparse_edit tol skip d p _ qNone (qAt old pos) s hwf hen hcn (sq_env hold) hp hget
    (by simp [strSel, qAt, isOneText])
    (by simp [setStringE, contentsOf, allOf, argsContents, dropBlank, Expr.isBlankText, hu, strTop,
      Expr.setBody])
    huniq (qAt_root hpos) hsq

/-- **… from the source**: `d` well-formed, its tokens a tokenizer output without a bare sizing
prefix, environment names plain, `goodText s`. -/
theorem set_string_command_reparse_of_source (tol : Bool) (skip : List Str) (d : Doc) (p : Path)
    (old : Str) (a : Expr) (b : List Expr) (pos : Int) (s : Str)
    (hwf : WFD (Tables.skipEnvNames ++ skip) d = true) (hen : envNamesPlainS d = true)
    (hsep : Separated none (toksD d)) (hsz : C16G.noBareSizing (toksD d) = true) (hp : p ≠ [])
    (hget : getAtRoot (treeD d) p = some (.cmd old [a] b pos)) (hold : (old == sItem) = false)
    (huniq : cntSelL (strSel (qAt old pos) qNone) (treeD d) = 1) (hs : goodText s = true) :
    ∃ t2, parse tol skip (serL (applyEdit (treeD d) (.setString p s))) = .ok t2 ∧
      bareL t2 = bareL (applyEdit (treeD d) (.setString p s)) ∧
      serL t2 = serL (applyEdit (treeD d) (.setString p s)) :=
  set_string_command_reparse tol skip d p old a b pos s hwf hen (cmdNamesPlainS_of_separated hwf hsep hen)
    hp hget hold huniq
    (separated_squeeze_setStr ⟨rfl, hs⟩ hwf hsep (C16G.noBareSizing_spec hsz))

theorem set_string_environment_reparse_of_source (tol : Bool) (skip : List Str) (d : Doc) (p : Path)
    (old u : Str) (pu pos : Int) (s : Str)
    (hwf : WFD (Tables.skipEnvNames ++ skip) d = true) (hen : envNamesPlainS d = true)
    (hsep : Separated none (toksD d)) (hsz : C16G.noBareSizing (toksD d) = true) (hp : p ≠ [])
    (hget : getAtRoot (treeD d) p = some (.nenv old [] [.text u pu] pos)) (hu : isBlank u = false)
    (hpos : pos ≠ -1) (hold : memStr old (Tables.skipEnvNames ++ skip) = false)
    (huniq : cntSelL (strSel qNone (qAt old pos)) (treeD d) = 1) (hs : goodText s = true) :
    ∃ t2, parse tol skip (serL (applyEdit (treeD d) (.setString p s))) = .ok t2 ∧
      bareL t2 = bareL (applyEdit (treeD d) (.setString p s)) ∧
      serL t2 = serL (applyEdit (treeD d) (.setString p s)) :=
  set_string_environment_reparse tol skip d p old u pu pos s hwf hen
    (cmdNamesPlainS_of_separated hwf hsep hen) hp hget hu hpos hold huniq
    (separated_squeeze_setStr ⟨rfl, hs⟩ hwf hsep (C16G.noBareSizing_spec hsz))

/-! ## `node.args = [own arguments, reordered / sliced]`

`Gram.setArgs r` gives the selected node the argument run `[args[i] for i in i1 ++ i2 ++ i3 ++ i4]`
where the groups picked by `i1` are bracket groups, by `i2` brace groups, by `i3` bracket groups,
by `i4` brace groups (`argSel`; for an environment `i1 = []`: the run behind `\begin{name}` is
`{..}* [..]* {..}*`). This is the shape of run `read_args` reads: `[..]* {..}*` and then, directly
behind a brace group, once more `[..]* {..}*` – a list whose kinds are not of this form is *not*
read back as one run (`exInterleaved` below: `{a}[b]{c}[d]` – the fourth group stays text).
The tree of the re-argumented document is the edit `.setArgs p (pick idx args)` of the edit model
(`treeD_setArgs`, `applyEdit_mapSel`): same groups, same contents, same positions.

Whether the run is read back *completely and alone* further depends on the signature of the name
(a fixed signature takes a fixed number of groups) and on what follows the command (a following
`[` / `{` would be absorbed or not, depending on what the run ends with): these are exactly the
conditions `Gram.runOK` of the grammar, i.e. the well-formedness of the re-argumented document,
which is a (decidable) hypothesis here (`hwf'`), as is `Separated` of its squeezed token list
(slicing to the empty list may glue the name to a following letter: `exGlue`). -/

theorem set_args_reparse_general (tol : Bool) (skip : List Str) (d : Doc)
    (qc qe : Str → Int → Bool) (i1 i2 i3 i4 : List Nat)
    (hwf : WFD (Tables.skipEnvNames ++ skip) d = true) (hen : envNamesPlainS d = true)
    (hcn : cmdNamesPlainS d = true) (hq : SQ qc qe (Tables.skipEnvNames ++ skip))
    (hwf' : WFD (Tables.skipEnvNames ++ skip) (setArgsD (SetA.ofQ qc qe i1 i2 i3 i4) d) = true)
    (hsq : Separated none (toksD (squeezeD (setArgsD (SetA.ofQ qc qe i1 i2 i3 i4) d)))) :
    ∃ t2, parse tol skip (serL (mapSelL (argSel qc qe i1 i2 i3 i4) (argTop (i1 ++ (i2 ++ (i3 ++ i4)))) (treeD d)))
        = .ok t2 ∧
      shapeL t2 = shapeL (mapSelL (argSel qc qe i1 i2 i3 i4) (argTop (i1 ++ (i2 ++ (i3 ++ i4)))) (treeD d)) ∧
      serL t2 = serL (mapSelL (argSel qc qe i1 i2 i3 i4) (argTop (i1 ++ (i2 ++ (i3 ++ i4)))) (treeD d)) := by
  have hen' : envNamesPlainS (setArgsD (SetA.ofQ qc qe i1 i2 i3 i4) d) = true :=
    envNamesPlainS_setArgs _ d hen
  have h := C16G.reparse_fixed_point tol skip _ hwf' hen' hsq
  rw [treeD_setArgs d hwf hcn hen hq] at h
  exact h

/-- … for the edit model: `t` is the node at path `p`, the only applicable selected one. -/
theorem set_args_reparse_edit (tol : Bool) (skip : List Str) (d : Doc) (p : Path) (t : Expr)
    (qc qe : Str → Int → Bool) (i1 i2 i3 i4 : List Nat)
    (hwf : WFD (Tables.skipEnvNames ++ skip) d = true) (hen : envNamesPlainS d = true)
    (hcn : cmdNamesPlainS d = true) (hq : SQ qc qe (Tables.skipEnvNames ++ skip))
    (hp : p ≠ []) (hget : getAtRoot (treeD d) p = some t) (hsel : argSel qc qe i1 i2 i3 i4 t = true)
    (hset : setArgsE (pick (i1 ++ (i2 ++ (i3 ++ i4))) t.args) t = some (argTop (i1 ++ (i2 ++ (i3 ++ i4))) t))
    (huniq : cntSelL (argSel qc qe i1 i2 i3 i4) (treeD d) = 1) (hroot : qe [] (-1) = false)
    (hwf' : WFD (Tables.skipEnvNames ++ skip) (setArgsD (SetA.ofQ qc qe i1 i2 i3 i4) d) = true)
    (hsq : Separated none (toksD (squeezeD (setArgsD (SetA.ofQ qc qe i1 i2 i3 i4) d)))) :
    ∃ t2, parse tol skip (serL (applyEdit (treeD d) (.setArgs p (pick (i1 ++ (i2 ++ (i3 ++ i4))) t.args)))) = .ok t2 ∧
      shapeL t2 = shapeL (applyEdit (treeD d) (.setArgs p (pick (i1 ++ (i2 ++ (i3 ++ i4))) t.args))) ∧
      serL t2 = serL (applyEdit (treeD d) (.setArgs p (pick (i1 ++ (i2 ++ (i3 ++ i4))) t.args))) := by
  rw [applyEdit_mapSel (argSel qc qe i1 i2 i3 i4) (argTop (i1 ++ (i2 ++ (i3 ++ i4))))
    (by simp [applyEditE, hp]) hget hsel hset huniq (by simp [rootWrap, argSel, hroot])]
  exact set_args_reparse_general tol skip d qc qe i1 i2 i3 i4 hwf hen hcn hq hwf' hsq

/-- **`node.args = [args[i] for i in i1 ++ i2 ++ i3 ++ i4]` on a command, then `str`, then parse.**
The picked groups are brackets, braces, brackets, braces (`hk`), the re-argumented document is
well-formed (`hwf'`: signature and following tokens admit the run) and its squeezed token list is a
tokenizer output. -/
theorem set_args_command_reparse (tol : Bool) (skip : List Str) (d : Doc) (p : Path)
    (old : Str) (a b : List Expr) (pos : Int) (i1 i2 i3 i4 : List Nat)
    (hwf : WFD (Tables.skipEnvNames ++ skip) d = true) (hen : envNamesPlainS d = true)
    (hcn : cmdNamesPlainS d = true) (hp : p ≠ [])
    (hget : getAtRoot (treeD d) p = some (.cmd old a b pos)) (hold : (old == sItem) = false)
    (hk : ((pick i1 a).all (isGroupOf .bracket) && (pick i2 a).all (isGroupOf .brace)
      && (pick i3 a).all (isGroupOf .bracket) && (pick i4 a).all (isGroupOf .brace)) = true)
    (huniq : cntSelL (argSel (qAt old pos) qNone i1 i2 i3 i4) (treeD d) = 1)
    (hwf' : WFD (Tables.skipEnvNames ++ skip) (setArgsD (SetA.ofQ (qAt old pos) qNone i1 i2 i3 i4) d) = true)
    (hsq : Separated none (toksD (squeezeD (setArgsD (SetA.ofQ (qAt old pos) qNone i1 i2 i3 i4) d)))) :
    ∃ t2, parse tol skip (serL (applyEdit (treeD d) (.setArgs p (pick (i1 ++ (i2 ++ (i3 ++ i4))) a)))) = .ok t2 ∧
      shapeL t2 = shapeL (applyEdit (treeD d) (.setArgs p (pick (i1 ++ (i2 ++ (i3 ++ i4))) a))) ∧
      serL t2 = serL (applyEdit (treeD d) (.setArgs p (pick (i1 ++ (i2 ++ (i3 ++ i4))) a))) :=
  set_args_reparse_edit tol skip d p (.cmd old a b pos) (qAt old pos) qNone i1 i2 i3 i4 hwf hen hcn
    (sq_cmd hold) hp hget
    (by
      simp only [Bool.and_eq_true] at hk
      simp [argSel, qAt, hk.1.1.1, hk.1.1.2, hk.1.2, hk.2])
    (by simp [setArgsE, argTop, Expr.args]) huniq rfl hwf' hsq

/-- **… on an environment**: the run behind `\begin{name}` is braces, brackets, braces. -/
theorem set_args_environment_reparse (tol : Bool) (skip : List Str) (d : Doc) (p : Path)
    (old : Str) (a b : List Expr) (pos : Int) (i2 i3 i4 : List Nat)
    (hwf : WFD (Tables.skipEnvNames ++ skip) d = true) (hen : envNamesPlainS d = true)
    (hcn : cmdNamesPlainS d = true) (hp : p ≠ [])
    (hget : getAtRoot (treeD d) p = some (.nenv old a b pos)) (hpos : pos ≠ -1)
    (hold : memStr old (Tables.skipEnvNames ++ skip) = false)
    (hk : ((pick i2 a).all (isGroupOf .brace) && (pick i3 a).all (isGroupOf .bracket)
      && (pick i4 a).all (isGroupOf .brace)) = true)
    (huniq : cntSelL (argSel qNone (qAt old pos) [] i2 i3 i4) (treeD d) = 1)
    (hwf' : WFD (Tables.skipEnvNames ++ skip) (setArgsD (SetA.ofQ qNone (qAt old pos) [] i2 i3 i4) d) = true)
    (hsq : Separated none (toksD (squeezeD (setArgsD (SetA.ofQ qNone (qAt old pos) [] i2 i3 i4) d)))) :
    ∃ t2, parse tol skip (serL (applyEdit (treeD d) (.setArgs p (pick (i2 ++ (i3 ++ i4)) a)))) = .ok t2 ∧
      shapeL t2 = shapeL (applyEdit (treeD d) (.setArgs p (pick (i2 ++ (i3 ++ i4)) a))) ∧
      serL t2 = serL (applyEdit (treeD d) (.setArgs p (pick (i2 ++ (i3 ++ i4)) a))) := by
  have h := set_args_reparse_edit tol skip d p (.nenv old a b pos) qNone (qAt old pos) [] i2 i3 i4 hwf hen hcn
    (sq_env hold) hp hget
    (by
      simp only [Bool.and_eq_true] at hk
      simp [argSel, qAt, hk.1.1, hk.1.2, hk.2])
    (by simp [setArgsE, argTop, Expr.args]) huniq
    (qAt_root hpos) hwf' hsq
  simpa [Expr.args] using h

private def t (s : Str) (p : Nat) (c : TC) : Tok := ⟨s, p, c⟩

def sFoo : Str := [102, 111, 111]
def sBar : Str := [98, 97, 114]

/-- `\begin{a}\item\foo{b}x\end{a}` – a command inside an `\item` inside an environment -/
def exDoc : Doc :=
  [.env (t [92] 0 .Escape) (t sBegin 1 .CommandName)
    ⟨none, t [123] 6 .GroupBegin, t [97] 7 .Text, t [125] 8 .GroupEnd⟩ [] [] []
    [.item (t [92] 9 .Escape) (t sItem 10 .CommandName) [] [] [] []
      [.cmd (t [92] 14 .Escape) (t sFoo 15 .CommandName) []
         [.mk none (t [123] 18 .GroupBegin) [.leaf (t [98] 19 .Text)] (t [125] 20 .GroupEnd)] [] [],
       .leaf (t [120] 21 .Text)]]
    (t [92] 22 .Escape) (t sEnd 23 .CommandName)
    ⟨none, t [123] 26 .GroupBegin, t [97] 27 .Text, t [125] 28 .GroupEnd⟩]

/-- `\foo{a}` -/
def exSig0 : Doc :=
  [.cmd (t [92] 0 .Escape) (t sFoo 1 .CommandName) []
    [.mk none (t [123] 4 .GroupBegin) [.leaf (t [97] 5 .Text)] (t [125] 6 .GroupEnd)] [] []]

/-- rename the command `\foo` at offset 14 to `\bar` -/
def exRen : Ren := Ren.ofQ (qAt sFoo 14) sBar qNone []

theorem exDoc_wf : WFD Tables.skipEnvNames exDoc = true := by decide +kernel
theorem exDoc_envPlain : envNamesPlainS exDoc = true := by decide +kernel
theorem exDoc_cmdPlain : cmdNamesPlainS exDoc = true := by decide +kernel
theorem exDoc_sep : Separated none (toksD exDoc) := by decide +kernel
theorem exDoc_noBare : C16G.noBareSizing (toksD exDoc) = true := by decide +kernel
theorem exDoc_ren_sep : Separated none (toksD (squeezeD (renameD exRen exDoc))) := by decide +kernel
theorem sFoo_sBar_role : sameRole sFoo sBar = true ∧ strip sBar = sBar := by decide +kernel
/-- the path of `\foo`: root body 0 (the environment), body 0 (the `\item`), body 0 -/
theorem exDoc_foo : getAtRoot (treeD exDoc) [.body 0, .body 0, .body 0] =
    some (.cmd sFoo [.group .brace [.text [98] 19] 18] [] 14) := by decide +kernel
theorem exDoc_foo_uniq : selCountL (qAt sFoo 14) qNone (treeD exDoc) = 1 := by decide +kernel
theorem exDoc_env : getAtRoot (treeD exDoc) [.body 0] = some (.nenv [97] []
    [.cmd sItem [] [.cmd sFoo [.group .brace [.text [98] 19] 18] [] 14, .text [120] 21] 9] 0) := by
  decide +kernel

example : flat (toksD exDoc) = [92, 98, 101, 103, 105, 110, 123, 97, 125, 92, 105, 116, 101, 109, 92, 102,
    111, 111, 123, 98, 125, 120, 92, 101, 110, 100, 123, 97, 125] := by decide +kernel
example : WFD Tables.skipEnvNames exDoc = true ∧ envNamesPlainS exDoc = true ∧
    cmdNamesPlainS exDoc = true ∧ Separated none (toksD exDoc) ∧
    Separated none (toksD (squeezeD (renameD exRen exDoc))) :=
  ⟨exDoc_wf, exDoc_envPlain, exDoc_cmdPlain, exDoc_sep, exDoc_ren_sep⟩
example : sameRole sFoo sBar = true ∧ strip sBar = sBar := sFoo_sBar_role
example : WFD Tables.skipEnvNames (renameD exRen exDoc) = true := by decide +kernel
example : treeD exDoc =
    [.nenv [97] [] [.cmd sItem [] [.cmd sFoo [.group .brace [.text [98] 19] 18] [] 14, .text [120] 21] 9] 0] := by
  decide +kernel
example : treeD (renameD exRen exDoc) =
    [.nenv [97] [] [.cmd sItem [] [.cmd sBar [.group .brace [.text [98] 19] 18] [] 14, .text [120] 21] 9] 0] := by
  decide +kernel
example : getAtRoot (treeD exDoc) [.body 0, .body 0, .body 0] =
    some (.cmd sFoo [.group .brace [.text [98] 19] 18] [] 14) := exDoc_foo
example : selCountL (qAt sFoo 14) qNone (treeD exDoc) = 1 := exDoc_foo_uniq
example : applyEdit (treeD exDoc) (.rename [.body 0, .body 0, .body 0] sBar) =
    treeD (renameD exRen exDoc) := by decide +kernel
example : serL (applyEdit (treeD exDoc) (.rename [.body 0, .body 0, .body 0] sBar)) =
    [92, 98, 101, 103, 105, 110, 123, 97, 125, 92, 105, 116, 101, 109, 92, 98, 97, 114, 123, 98, 125,
     120, 92, 101, 110, 100, 123, 97, 125] := by decide +kernel

example : ∃ t2, parse false [] (serL (applyEdit (treeD exDoc) (.rename [.body 0, .body 0, .body 0] sBar))) = .ok t2 ∧
    shapeL t2 = shapeL (applyEdit (treeD exDoc) (.rename [.body 0, .body 0, .body 0] sBar)) ∧
    serL t2 = serL (applyEdit (treeD exDoc) (.rename [.body 0, .body 0, .body 0] sBar)) :=
  rename_command_reparse false [] exDoc _ sFoo sBar _ _ 14 exDoc_wf exDoc_envPlain exDoc_cmdPlain (by decide)
    exDoc_foo exDoc_foo_uniq sFoo_sBar_role.1 sFoo_sBar_role.2 exDoc_ren_sep

example : ∃ t2, parse true [] (serL (applyEdit (treeD exDoc) (.rename [.body 0, .body 0, .body 0] sBar))) = .ok t2 ∧
    shapeL t2 = shapeL (applyEdit (treeD exDoc) (.rename [.body 0, .body 0, .body 0] sBar)) ∧
    serL t2 = serL (applyEdit (treeD exDoc) (.rename [.body 0, .body 0, .body 0] sBar)) :=
  rename_command_reparse_of_source true [] exDoc _ sFoo sBar _ _ 14 exDoc_wf exDoc_envPlain exDoc_sep
    exDoc_noBare (by decide) exDoc_foo exDoc_foo_uniq sFoo_sBar_role.1 (by decide +kernel) (by decide +kernel)
    (by decide +kernel)

/-- … and the environment `a` (path: root body 0) renamed to `b`: both name groups change. -/
def exRenEnv : Ren := Ren.ofQ qNone [] (qAt [97] 0) [98]

example : treeD (renameD exRenEnv exDoc) =
    [.nenv [98] [] [.cmd sItem [] [.cmd sFoo [.group .brace [.text [98] 19] 18] [] 14, .text [120] 21] 9] 0] := by
  decide +kernel
example : flat (toksD (renameD exRenEnv exDoc)) = [92, 98, 101, 103, 105, 110, 123, 98, 125, 92, 105, 116, 101,
    109, 92, 102, 111, 111, 123, 98, 125, 120, 92, 101, 110, 100, 123, 98, 125] := by decide +kernel
example : ∃ t2, parse true [] (serL (applyEdit (treeD exDoc) (.rename [.body 0] [98]))) = .ok t2 ∧
    shapeL t2 = shapeL (applyEdit (treeD exDoc) (.rename [.body 0] [98])) ∧
    serL t2 = serL (applyEdit (treeD exDoc) (.rename [.body 0] [98])) :=
  rename_environment_reparse true [] exDoc _ [97] [98] _ _ 0 exDoc_wf exDoc_envPlain exDoc_cmdPlain (by decide)
    exDoc_env (by decide) (by decide +kernel) (by decide +kernel) (by decide +kernel) (by decide +kernel)
    (by decide +kernel)

example : ∃ t2, parse false [] (serL (applyEdit (treeD exDoc) (.rename [.body 0] [98]))) = .ok t2 ∧
    shapeL t2 = shapeL (applyEdit (treeD exDoc) (.rename [.body 0] [98])) ∧
    serL t2 = serL (applyEdit (treeD exDoc) (.rename [.body 0] [98])) :=
  rename_environment_reparse_of_source false [] exDoc _ [97] [98] _ _ 0 exDoc_wf exDoc_envPlain
    exDoc_sep exDoc_noBare (by decide) exDoc_env (by decide) (by decide +kernel) (by decide +kernel)
    (by decide +kernel) (by decide +kernel) (by decide +kernel) (by decide +kernel)

/-- the new string `hi 1` -/
def sHi : Str := [104, 105, 32, 49]

example : goodText sHi = true ∧ cntSelL (strSel (qAt sFoo 14) qNone) (treeD exDoc) = 1 := by decide +kernel
example : applyEdit (treeD exDoc) (.setString [.body 0, .body 0, .body 0] sHi) =
    [.nenv [97] [] [.cmd sItem [] [.cmd sFoo [.group .brace [.text sHi (-1)] 18] [] 14, .text [120] 21] 9] 0] := by
  decide +kernel
example : treeD (setStrD (SetS.ofQ (qAt sFoo 14) qNone sHi 0) exDoc) =
    [.nenv [97] [] [.cmd sItem [] [.cmd sFoo [.group .brace [.text sHi 0] 18] [] 14, .text [120] 21] 9] 0] := by
  decide +kernel
example : ∃ t2, parse false [] (serL (applyEdit (treeD exDoc) (.setString [.body 0, .body 0, .body 0] sHi))) = .ok t2 ∧
    bareL t2 = bareL (applyEdit (treeD exDoc) (.setString [.body 0, .body 0, .body 0] sHi)) ∧
    serL t2 = serL (applyEdit (treeD exDoc) (.setString [.body 0, .body 0, .body 0] sHi)) :=
  set_string_command_reparse_of_source false [] exDoc _ sFoo _ _ 14 sHi exDoc_wf exDoc_envPlain
    exDoc_sep exDoc_noBare (by decide) exDoc_foo (by decide +kernel) (by decide +kernel) (by decide +kernel)

/-- `\begin{a}xy\end{a}z` – a text-only environment -/
def exEnvT : Doc :=
  [.env (t [92] 0 .Escape) (t sBegin 1 .CommandName)
    ⟨none, t [123] 6 .GroupBegin, t [97] 7 .Text, t [125] 8 .GroupEnd⟩ [] [] []
    [.leaf (t [120, 121] 9 .Text)]
    (t [92] 11 .Escape) (t sEnd 12 .CommandName)
    ⟨none, t [123] 15 .GroupBegin, t [97] 16 .Text, t [125] 17 .GroupEnd⟩,
   .leaf (t [122] 18 .Text)]

example : applyEdit (treeD exEnvT) (.setString [.body 0] sHi) =
    [.nenv [97] [] [.text sHi (-1)] 0, .text [122] 18] := by decide +kernel
example : serL (applyEdit (treeD exEnvT) (.setString [.body 0] sHi)) =
    [92, 98, 101, 103, 105, 110, 123, 97, 125, 104, 105, 32, 49, 92, 101, 110, 100, 123, 97, 125, 122] := by
  decide +kernel
example : ∃ t2, parse true [] (serL (applyEdit (treeD exEnvT) (.setString [.body 0] sHi))) = .ok t2 ∧
    bareL t2 = bareL (applyEdit (treeD exEnvT) (.setString [.body 0] sHi)) ∧
    serL t2 = serL (applyEdit (treeD exEnvT) (.setString [.body 0] sHi)) :=
  set_string_environment_reparse_of_source true [] exEnvT _ [97] [120, 121] 9 0 sHi (by decide +kernel)
    (by decide +kernel) (by decide +kernel) (by decide +kernel) (by decide) (by decide +kernel)
    (by decide +kernel) (by decide) (by decide +kernel) (by decide +kernel) (by decide +kernel)

/-- `goodText s` is needed. The empty string: the edited tree holds an empty text leaf, the
re-parsed group is empty. A closing brace: the group ends early. -/
example : goodText [] = false ∧ goodText [125] = false := by decide +kernel
example : applyEdit (treeD exSig0) (.setString [.body 0] []) =
    [.cmd sFoo [.group .brace [.text [] (-1)] 4] [] 0] := by decide +kernel
example : parse false [] (serL (applyEdit (treeD exSig0) (.setString [.body 0] []))) =
    .ok [.cmd sFoo [.group .brace [] 4] [] 0] := by decide +kernel
example : parse false [] (serL (applyEdit (treeD exSig0) (.setString [.body 0] [125]))) =
    .ok [.cmd sFoo [.group .brace [] 4] [] 0, .text [125] 6] := by decide +kernel

/-- `\x[b][d]{a}{c}` -/
def exArgs : Doc :=
  [.cmd (t [92] 0 .Escape) (t [120] 1 .CommandName)
    [.mk none (t [91] 2 .BracketBegin) [.leaf (t [98] 3 .Text)] (t [93] 4 .BracketEnd),
     .mk none (t [91] 5 .BracketBegin) [.leaf (t [100] 6 .Text)] (t [93] 7 .BracketEnd)]
    [.mk none (t [123] 8 .GroupBegin) [.leaf (t [97] 9 .Text)] (t [125] 10 .GroupEnd),
     .mk none (t [123] 11 .GroupBegin) [.leaf (t [99] 12 .Text)] (t [125] 13 .GroupEnd)] [] []]

theorem exArgs_wf : WFD Tables.skipEnvNames exArgs = true := by decide +kernel
theorem exArgs_x : getAtRoot (treeD exArgs) [.body 0] =
    some (.cmd [120] [.group .bracket [.text [98] 3] 2, .group .bracket [.text [100] 6] 5,
      .group .brace [.text [97] 9] 8, .group .brace [.text [99] 12] 11] [] 0) := by decide +kernel

example : WFD Tables.skipEnvNames exArgs = true ∧ Separated none (toksD exArgs) :=
  ⟨exArgs_wf, by decide +kernel⟩
example : treeD exArgs = [.cmd [120] [.group .bracket [.text [98] 3] 2, .group .bracket [.text [100] 6] 5,
    .group .brace [.text [97] 9] 8, .group .brace [.text [99] 12] 11] [] 0] := by decide +kernel

/-- the reversal `{c}{a}[d][b]` (indices 3,2 | 1,0: braces, then brackets directly behind) and the
slice `[d]{a}` are read back -/
example : ∃ t2, parse false [] (serL (applyEdit (treeD exArgs) (.setArgs [.body 0]
      (pick ([] ++ ([3, 2] ++ ([1, 0] ++ []))) [.group .bracket [.text [98] 3] 2, .group .bracket [.text [100] 6] 5,
        .group .brace [.text [97] 9] 8, .group .brace [.text [99] 12] 11])))) = .ok t2 ∧
    shapeL t2 = shapeL (applyEdit (treeD exArgs) (.setArgs [.body 0]
      (pick ([] ++ ([3, 2] ++ ([1, 0] ++ []))) [.group .bracket [.text [98] 3] 2, .group .bracket [.text [100] 6] 5,
        .group .brace [.text [97] 9] 8, .group .brace [.text [99] 12] 11]))) ∧
    serL t2 = serL (applyEdit (treeD exArgs) (.setArgs [.body 0]
      (pick ([] ++ ([3, 2] ++ ([1, 0] ++ []))) [.group .bracket [.text [98] 3] 2, .group .bracket [.text [100] 6] 5,
        .group .brace [.text [97] 9] 8, .group .brace [.text [99] 12] 11]))) :=
  set_args_command_reparse false [] exArgs _ [120] _ [] 0 [] [3, 2] [1, 0] [] exArgs_wf (by decide +kernel)
    (by decide +kernel) (by decide) exArgs_x (by decide +kernel) (by decide +kernel) (by decide +kernel)
    (by decide +kernel) (by decide +kernel)
example : serL (applyEdit (treeD exArgs) (.setArgs [.body 0]
      (pick [3, 2, 1, 0] [.group .bracket [.text [98] 3] 2, .group .bracket [.text [100] 6] 5,
        .group .brace [.text [97] 9] 8, .group .brace [.text [99] 12] 11]))) =
    [92, 120, 123, 99, 125, 123, 97, 125, 91, 100, 93, 91, 98, 93] := by decide +kernel
example : ∃ t2, parse true [] (serL (applyEdit (treeD exArgs) (.setArgs [.body 0]
      (pick ([1] ++ ([2] ++ ([] ++ []))) [.group .bracket [.text [98] 3] 2, .group .bracket [.text [100] 6] 5,
        .group .brace [.text [97] 9] 8, .group .brace [.text [99] 12] 11])))) = .ok t2 ∧ True :=
  let ⟨t2, h, _⟩ := set_args_command_reparse true [] exArgs _ [120] _ [] 0 [1] [2] [] [] exArgs_wf
    (by decide +kernel) (by decide +kernel) (by decide) exArgs_x (by decide +kernel) (by decide +kernel)
    (by decide +kernel) (by decide +kernel) (by decide +kernel)
  ⟨t2, h, trivial⟩

/-- **The re-parse clause fails for an interleaved reordering**: `x.args = [args[2], args[0],
args[3], args[1]]` prints `\x{a}[b]{c}[d]`; the reader takes `{a}[b]{c}` and leaves `[d]` as
text. The kinds brace, bracket, brace, bracket are not of the form `[^k {^l [^m {^n`. -/
def exInterleaved : List Expr :=
  applyEdit (treeD exArgs) (.setArgs [.body 0]
    (pick [2, 0, 3, 1] [.group .bracket [.text [98] 3] 2, .group .bracket [.text [100] 6] 5,
      .group .brace [.text [97] 9] 8, .group .brace [.text [99] 12] 11]))

example : exInterleaved = [.cmd [120] [.group .brace [.text [97] 9] 8, .group .bracket [.text [98] 3] 2,
    .group .brace [.text [99] 12] 11, .group .bracket [.text [100] 6] 5] [] 0] := by decide +kernel
example : serL exInterleaved = [92, 120, 123, 97, 125, 91, 98, 93, 123, 99, 125, 91, 100, 93] := by decide +kernel

theorem interleaved_parse : parse false [] (serL exInterleaved) =
    .ok [.cmd [120] [.group .brace [.text [97] 3] 2, .group .bracket [.text [98] 6] 5,
      .group .brace [.text [99] 9] 8] [] 0, .text [91] 11, .text [100] 12, .text [93] 13] := by decide +kernel

/-- the text `\x{a}[b]{c}[d]` is read as a command with THREE arguments followed by three text
leaves `[`, `d`, `]`; whatever tree it is, it has not the shape of the edited tree (one node). -/
theorem interleaved_args_not_read_back :
    (match parse false [] (serL exInterleaved) with
      | .ok [.cmd _ a _ _, .text x _, .text y _, .text z _] => (a.length, x, y, z)
      | _ => (0, [], [], [])) = (3, [91], [100], [93]) ∧
    ∀ t2, parse false [] (serL exInterleaved) = .ok t2 → shapeL t2 ≠ shapeL exInterleaved := by
  rw [interleaved_parse]
  refine ⟨rfl, ?_⟩
  intro t2 h2
  cases h2
  decide +kernel

/-- The split `[] [2] [0] [3, 1]` of the indices 2, 0, 3, 1 is refused by `argSel`: `args[1]` is
a bracket group where the run asks for a brace group. -/
example : argSel (qAt [120] 0) qNone [] [2] [0] [3, 1] (.cmd [120] [.group .bracket [.text [98] 3] 2,
    .group .bracket [.text [100] 6] 5, .group .brace [.text [97] 9] 8, .group .brace [.text [99] 12] 11] [] 0)
    = false := by decide +kernel

/-- `\x{a}b` with `x.args = []` prints `\xb`: another command (`hsq` fails). -/
def exGlue : Doc :=
  [.cmd (t [92] 0 .Escape) (t [120] 1 .CommandName) []
    [.mk none (t [123] 2 .GroupBegin) [.leaf (t [97] 3 .Text)] (t [125] 4 .GroupEnd)] [] [],
   .leaf (t [98] 5 .Text)]
example : WFD Tables.skipEnvNames exGlue = true ∧ Separated none (toksD exGlue) ∧
    WFD Tables.skipEnvNames (setArgsD (SetA.ofQ (qAt [120] 0) qNone [] [] [] []) exGlue) = true ∧
    ¬ Separated none (toksD (squeezeD (setArgsD (SetA.ofQ (qAt [120] 0) qNone [] [] [] []) exGlue))) := by
  decide +kernel
example : parse false [] (serL (applyEdit (treeD exGlue) (.setArgs [.body 0] []))) =
    .ok [.cmd [120, 98] [] [] 0] := by decide +kernel

/-- `\foo x` renamed to `\item x`: the renamed tree is a command `item` *without* contents
followed by a text; its text `\item x` parses to an `\item` that owns the text. -/
def exItem : Doc :=
  [.cmd (t [92] 0 .Escape) (t sFoo 1 .CommandName) [] [] [] [], .leaf (t [32, 120] 4 .Text)]

example : WFD Tables.skipEnvNames exItem = true ∧ sameRole sFoo sItem = false := by decide +kernel
example : applyEdit (treeD exItem) (.rename [.body 0] sItem) = [.cmd sItem [] [] 0, .text [32, 120] 4] := by
  decide +kernel
example : parse false [] (serL (applyEdit (treeD exItem) (.rename [.body 0] sItem))) =
    .ok [.cmd sItem [] [.text [32, 120] 5] 0] := by decide +kernel

/-- `\foo{a}{b}` renamed to `\textbf{a}{b}` (signature `(1, 0)`): the renamed tree has two
arguments, the re-parsed one has one argument and a free group. -/
def sTextbf : Str := [116, 101, 120, 116, 98, 102]
def exSig : Doc :=
  [.cmd (t [92] 0 .Escape) (t sFoo 1 .CommandName) []
    [.mk none (t [123] 4 .GroupBegin) [.leaf (t [97] 5 .Text)] (t [125] 6 .GroupEnd),
     .mk none (t [123] 7 .GroupBegin) [.leaf (t [98] 8 .Text)] (t [125] 9 .GroupEnd)] [] []]

example : WFD Tables.skipEnvNames exSig = true ∧ sameRole sFoo sTextbf = false := by decide +kernel
example : applyEdit (treeD exSig) (.rename [.body 0] sTextbf) =
    [.cmd sTextbf [.group .brace [.text [97] 5] 4, .group .brace [.text [98] 8] 7] [] 0] := by decide +kernel
example : parse false [] (serL (applyEdit (treeD exSig) (.rename [.body 0] sTextbf))) =
    .ok [.cmd sTextbf [.group .brace [.text [97] 8] 7] [] 0, .group .brace [.text [98] 11] 10] := by
  decide +kernel

/-- `\foo(x` renamed to `\left(x`: `new ∉ sizePrefix` is needed – `left(` is one sizing-command
token, the renamed token list is no tokenizer output (and the text of the renamed tree does not
parse to the renamed tree). -/
def sLeft : Str := [108, 101, 102, 116]
def exSizing : Doc :=
  [.cmd (t [92] 0 .Escape) (t sFoo 1 .CommandName) [] [] [] [], .leaf (t [40, 120] 4 .Text)]

example : WFD Tables.skipEnvNames exSizing = true ∧ Separated none (toksD exSizing) ∧
    sameRole sFoo sLeft = true ∧ goodName sLeft = true ∧ sLeft ∈ Tables.sizePrefix ∧
    ¬ Separated none (toksD (squeezeD (renameD (Ren.ofQ (qAt sFoo 0) sLeft qNone []) exSizing))) := by
  decide +kernel
example : applyEdit (treeD exSizing) (.rename [.body 0] sLeft) = [.cmd sLeft [] [] 0, .text [40, 120] 4] := by
  decide +kernel
example : parse false [] (serL (applyEdit (treeD exSizing) (.rename [.body 0] sLeft))) =
    .ok [.cmd [108, 101, 102, 116, 40] [] [] 0, .text [120] 6] := by decide +kernel

/-- `\begin{a}\item\foo{b}x\end{a}` renamed to `equation`: `envRole` is needed – the body of a
math environment is read in math mode, where `\item` is an error. -/
def sEquation : Str := [101, 113, 117, 97, 116, 105, 111, 110]
example : envRole [97] sEquation = false := by decide +kernel
example : (parse false [] (serL (applyEdit (treeD exDoc) (.rename [.body 0] sEquation)))).toBool = false := by
  decide +kernel

end TexSoup.C14G
