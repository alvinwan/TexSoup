import TexSoupProofs.Properties.C08
/-!
# C16 – Serialised output is a fixed point of the parser

For every input that parses in strict mode, re-parsing the serialised text succeeds, produces
a tree of identical shape and serialises to the identical text. (Side conditions as in C08,
and a sizing prefix is immediately followed by its delimiter.)

Proved here: the case in which no spacer stands directly before an opener – then the output
*is* the input (C08), so the second parse is the first one. The general case (the dropped
spacers do not disturb neighbouring tokens, and the reader takes the same decisions on the
squeezed token list) is `C16Grammar.lean` (`reparse_fixed_point`, documents of the grammar) and
`C02Sound.lean` (`reparse_fixed_point_all`, every strictly parsing input the grammar represents).
-/
namespace TexSoup.C16

/-- No spacer before an opener: serialising reproduces the source exactly. -/
theorem output_is_input (skip : List Str) (s : Str) (es : List Expr)
    (hs : ∀ c ∈ s, isIgnored (catOf c) = false) (h : parse false skip s = .ok es)
    (hskip : ∀ n, memStr n skip = true → PlainEnvName n)
    (henv : ∀ ts, tokenize s = some ts → C08.EnvNamesPlain ts) (hnb : noBareL es = true)
    (hsp : ∀ ts, tokenize s = some ts → noSpacerBeforeOpener ts = true) : serL es = s := by
  obtain ⟨ts, ht, hflat, hd, _⟩ := C08.conservation_string skip s es hs h hskip henv hnb
  rw [← hflat]
  exact hd.strict_exact (hsp ts ht)

/-- ... hence re-parsing the output gives the identical tree and text: load-save-load-save
does not drift. -/
theorem fixpoint_nodrop (skip : List Str) (s : Str) (es : List Expr)
    (hs : ∀ c ∈ s, isIgnored (catOf c) = false) (h : parse false skip s = .ok es)
    (hskip : ∀ n, memStr n skip = true → PlainEnvName n)
    (henv : ∀ ts, tokenize s = some ts → C08.EnvNamesPlain ts) (hnb : noBareL es = true)
    (hsp : ∀ ts, tokenize s = some ts → noSpacerBeforeOpener ts = true) :
    parse false skip (serL es) = .ok es ∧
      ∀ es', parse false skip (serL es) = .ok es' → serL es' = serL es := by
  have hout := output_is_input skip s es hs h hskip henv hnb hsp
  refine ⟨by rw [hout]; exact h, ?_⟩
  intro es' h'
  rw [hout, h] at h'
  cases h'
  rfl

/-- A second serialisation never grows: in strict mode the output is a sublist of its input. -/
theorem second_pass_sublist (skip : List Str) (es es2 : List Expr)
    (hs : ∀ c ∈ serL es, isIgnored (catOf c) = false) (h2 : parse false skip (serL es) = .ok es2)
    (hskip : ∀ n, memStr n skip = true → PlainEnvName n)
    (henv : ∀ ts, tokenize (serL es) = some ts → C08.EnvNamesPlain ts) (hnb : noBareL es2 = true) :
    (serL es2).Sublist (serL es) := by
  obtain ⟨_, _, _, _, hsub⟩ := C08.conservation_string skip (serL es) es2 hs h2 hskip henv hnb
  exact hsub

/-! Non-vacuity: `\a{b}` parses strictly and serialises to itself. -/
example : parse false [] [92, 97, 123, 98, 125] = .ok [.cmd [97] [.group .brace [.text [98] 3] 2] [] 0] ∧
    serL [.cmd [97] [.group .brace [.text [98] 3] 2] [] 0] = [92, 97, 123, 98, 125] :=
  ⟨Vec.cmd_group, by decide +kernel⟩

end TexSoup.C16
