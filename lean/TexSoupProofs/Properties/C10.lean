import TexSoupProofs.Reader.Leaves
import TexSoupProofs.TokLemmas.FirstTok
import TexSoupProofs.Properties.C03
/-!
# C10 – Comments are inert

Proved here: (tokenizer, all inputs) a comment character starts one `Comment` token that
extends to – and excludes – the next end-of-line character, whatever it contains; an escape
followed by `%` is claimed first as an escaped symbol, so it never starts a comment;
(reader) a `Comment` token is a text leaf in every mode and context, so nothing inside it
can open or close anything; (search) text leaves are never search results. That the tree
around a comment does not depend on its payload is `C10Grammar.lean`
(`comment_payload_does_not_matter`).
-/
namespace TexSoup.C10

/-- One token from `%` up to (excluding) the next end-of-line character. -/
theorem comment_token (pt : Option TC) (prev : Option Ch) (pos : Nat) (c0 : Ch) (r : Str)
    (h0 : catOf c0 = .Comment) :
    pass Tables.tokenizerOrder pt ⟨prev, pos, c0 :: r⟩ =
      .tok ⟨c0 :: r.takeWhile (fun c => catOf c != .EndOfLine), pos, .Comment⟩
        ⟨lastD (r.takeWhile (fun c => catOf c != .EndOfLine)) (some c0),
         pos + (1 + (r.takeWhile (fun c => catOf c != .EndOfLine)).length),
         r.dropWhile (fun c => catOf c != .EndOfLine)⟩ :=
  first_comment pt prev pos c0 r h0

/-- `\%` (and `\\`, `\$`, `\{` …) is one escaped-symbol token: the percent sign after an odd
backslash is not a comment. After `\\` the next character starts a fresh token, so an even
number of backslashes leaves the `%` a comment (`comment_token`). -/
theorem escaped_percent_token (pt : Option TC) (prev : Option Ch) (pos : Nat) (c0 c1 : Ch) (r : Str)
    (h0 : catOf c0 = .Escape) (h1 : isEscapable (catOf c1) = true) :
    pass Tables.tokenizerOrder pt ⟨prev, pos, c0 :: c1 :: r⟩ =
      .tok ⟨[c0, c1], pos, .EscapedComment⟩ ⟨some c1, pos + 2, r⟩ :=
  first_escaped pt prev pos c0 c1 r h0 h1

theorem percent_is_comment_char : catOf 37 = .Comment ∧ isEscapable (catOf 37) = true ∧
    catOf 92 = .Escape ∧ isEscapable (catOf 92) = true := by decide +kernel

/-- A comment token is a text leaf wherever an expression is read (body, argument, group,
item, every math kind): the reader never looks inside it. -/
theorem comment_is_leaf (f : Nat) (skip : List Str) (tol : Bool) (mode : Mode) (c : Tok)
    (ts : List Tok) (h : c.cat = .Comment) :
    readExpr (f + 1) skip tol mode (c :: ts) = .ok (.text c.text c.pos, ts) :=
  readExpr_leaf f skip tol mode c ts (by unfold isLeafTok; rw [h]; rfl)

/-- … and it never closes a group or math region: closers are recognised by category. -/
theorem comment_closes_nothing (c : Tok) (h : c.cat = .Comment) :
    (∀ k : GKind, (c.cat == k.tokEnd) = false) ∧ (∀ k : MKind, (c.cat == k.tokEnd) = false) := by
  rw [h]
  exact ⟨fun k => by cases k <;> rfl, fun k => by cases k <;> rfl⟩

/-- Search results are never text leaves: nothing inside a comment can be found. -/
theorem comments_not_searchable (q : Query) (e x : Expr) (h : x ∈ findAll q e) : x.isText = false := by
  rw [C03.findAll_spec] at h
  simp only [List.mem_filter, Bool.and_eq_true, Bool.not_eq_true'] at h
  exact h.2.1

end TexSoup.C10
