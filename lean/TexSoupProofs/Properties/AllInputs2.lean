import TexSoupProofs.Properties.AllInputs
import TexSoupProofs.Properties.C12Grammar
import TexSoupProofs.NavLemmas
/-!
# More corollaries for ALL strictly parsing representable inputs: nodes anywhere in the tree

`Sub x e`: `x` is `e` or lies inside it (in an argument or in the contents, at any depth);
`SubL x es`: inside one of `es`. `good_all`: for a strictly parsing representable input
(`AllInputs.StrictInput`) every node anywhere in the tree that is neither a group (an argument, or a brace
group in the contents) nor a text leaf is the tree of a well-formed element of the grammar witness whose tokens are a
contiguous part of the token list of the source (`Good`). From it, on the source / tree level:

 * **C12** `C12.math_node_all`: every math node `.math k body pos` anywhere in the tree is spelled
   in the source by an opener `o` of kind `k` at offset `pos`, tokens `bs`, a closer `c` of kind
   `k` (contiguous in `tokenize s`); `body` is exactly what the math-body reader makes of `bs`
   whatever follows the closer, and the node is what `read_expr` makes of `o bs c` in every mode,
   with every skip list, whatever follows.
   `C12.math_environment_node_all`: a named environment whose name is a math environment name
   (and not in the skip list in force at its place) has a body that the environment-body reader
   produces in math mode from a contiguous part of the source's tokens, whatever follows.
   `C12.no_free_bracket_group_all`: no content list anywhere in the tree contains a bracket
   group: `[`, `]` that are not the optional argument of a command are text leaves, in math as
   elsewhere, and need no partner.
   `C12.command_node_all`: every command node anywhere is spelled `\`, ONE name token: for a
   sizing command (`\left[`, `\big(` …) the delimiter is part of that token, not a bracket.
   `C12.command_found_all`: a command among the descendants is found by `find_all(name)`.
 * **C09** `C09.command_args_shape_anywhere`: `C09.command_args_shape_all` for command nodes
   anywhere in the tree.
 * **C11** is *not* generalised to "anywhere": inside a brace group, an argument, a math region or
   the contents of an `\item` no skip list is in force (`read_arg`, `read_math_env`, `read_item`
   call `read_expr` without `skip_envs`), so `{\begin{verbatim}$\end{verbatim}}` is read as an
   ordinary environment (`verbatim_in_group_is_interpreted`).
 * **C14** `set_args_command_reparse_all` / `set_args_environment_reparse_all`: `.args =` for
   every input; the two hypotheses about the re-argumented document (it is well-formed, its
   squeezed token list is a tokenizer output) are stated for a grammar witness of the input
   (`∃ d`), see there; the counterexample is `C14G.interleaved_args_not_read_back`.
-/
namespace TexSoup.AllInputs
open TexSoup TexSoup.Gram

inductive Sub : Expr → Expr → Prop
  | refl (e : Expr) : Sub e e
  | arg {x a e : Expr} : a ∈ e.args → Sub x a → Sub x e
  | body {x y e : Expr} : y ∈ e.body → Sub x y → Sub x e

def SubL (x : Expr) (es : List Expr) : Prop := ∃ e ∈ es, Sub x e

theorem sub_cases {x e : Expr} (h : Sub x e) : x = e ∨ SubL x (e.args ++ e.body) := by
  cases h with
  | refl => exact .inl rfl
  | arg ha hs => exact .inr ⟨_, List.mem_append_left _ ha, hs⟩
  | body hy hs => exact .inr ⟨_, List.mem_append_right _ hy, hs⟩

/-- `x` is accounted for in the token list `T`: a group or a text leaf (of which nothing is asked), or the tree of a
well-formed element whose tokens are a contiguous part of `T`. -/
def Good (x : Expr) (T : List Tok) : Prop :=
  (∃ k b p, x = .group k b p) ∨ (∃ s p, x = .text s p) ∨
  ∃ (e : Elem) (skip : List Str) (m : Mode) (nx : List Tok),
    WF skip m nx e = true ∧ tree e = x ∧ toks e <:+: T

theorem Good.mono {x : Expr} {T T' : List Tok} (h : Good x T) (hi : T <:+: T') : Good x T' := by
  rcases h with h | h | ⟨e, skip, m, nx, hw, ht, hinf⟩
  · exact .inl h
  · exact .inr (.inl h)
  · exact .inr (.inr ⟨e, skip, m, nx, hw, ht, hinf.trans hi⟩)

theorem infix_mid {α : Type} (A l B : List α) : l <:+: A ++ (l ++ B) := ⟨A, B, by simp⟩

theorem Good.left {x : Expr} {a b : List Tok} (h : Good x a) : Good x (a ++ b) :=
  h.mono (List.prefix_append a b).isInfix

theorem Good.right {x : Expr} {a b : List Tok} (h : Good x b) : Good x (a ++ b) :=
  h.mono (List.suffix_append a b).isInfix

theorem Good.cons {x : Expr} {t : Tok} {l : List Tok} (h : Good x l) : Good x (t :: l) :=
  h.mono (List.suffix_cons t l).isInfix

theorem good_append {A B : List Expr} {TA TB : List Tok} (hA : ∀ x, SubL x A → Good x TA)
    (hB : ∀ x, SubL x B → Good x TB) : ∀ x, SubL x (A ++ B) → Good x (TA ++ TB) := by
  rintro x ⟨y, hy, hs⟩
  rcases List.mem_append.1 hy with h | h
  · exact (hA x ⟨y, h, hs⟩).left
  · exact (hB x ⟨y, h, hs⟩).right

theorem good_text (u : Str) (p : Int) (T : List Tok) : ∀ x, SubL x [.text u p] → Good x T := by
  rintro x ⟨y, hy, hs⟩
  cases List.mem_singleton.1 hy
  rcases sub_cases hs with rfl | ⟨_, h, _⟩
  · exact .inr (.inl ⟨_, _, rfl⟩)
  · cases h

theorem good_grammar :
    (∀ (e : Elem) (skip : List Str) (m : Mode) (nx : List Tok),
      WF skip m nx e = true → ∀ x, Sub x (tree e) → Good x (toks e)) ∧
    (∀ (a : Arg) (m : Mode) (k gk : GKind),
      WFarg m k a = true → ∀ x, Sub x (treeArg gk a) → Good x (toksArg a)) ∧
    (∀ (es : List Elem) (skip : List Str) (m : Mode) (ctx : Ctx) (nx : List Tok),
      WFs skip m ctx nx es = true → ∀ x, SubL x (trees es) → Good x (toksS es)) ∧
    (∀ (as : List Arg) (m : Mode) (k gk : GKind),
      WFa m k as = true → ∀ x, SubL x (treesA gk as) → Good x (toksA as)) := by
  apply induct
  · intro t skip m nx h x hx
    rcases sub_cases hx with rfl | ⟨y, hy, _⟩
    · exact .inr (.inl ⟨_, _, rfl⟩)
    · cases hy
  · intro o b c ib skip m nx h x hx
    rcases sub_cases hx with rfl | hx
    · exact .inl ⟨_, _, _, rfl⟩
    · simp only [toks]
      exact (ib _ _ _ _ (WF_group.1 h).2.2 x hx).left.cons
  · intro k o b c ib skip m nx h x hx
    rcases sub_cases hx with rfl | hx
    · exact .inr (.inr ⟨_, skip, m, nx, h, rfl, List.infix_refl _⟩)
    · simp only [toks]
      exact (ib _ _ _ _ (WF_math.1 h).2.2 x hx).left.cons
  · intro e n a1 a2 a3 a4 i1 i2 i3 i4 skip m nx h x hx
    rcases sub_cases hx with rfl | hx
    · exact .inr (.inr ⟨_, skip, m, nx, h, rfl, List.infix_refl _⟩)
    · obtain ⟨-, w1, w2, w3, w4, -⟩ := WF_cmd.1 h
      simp only [tree, Expr.args, Expr.body, List.append_nil] at hx
      simp only [toks]
      exact (good_append (i1 _ _ _ w1) (good_append (i2 _ _ _ w2) (good_append (i3 _ _ _ w3)
        (i4 _ _ _ w4))) x hx).cons.cons
  · intro e n a1 a2 a3 a4 b i1 i2 i3 i4 ib skip m nx h x hx
    rcases sub_cases hx with rfl | hx
    · exact .inr (.inr ⟨_, skip, m, nx, h, rfl, List.infix_refl _⟩)
    · obtain ⟨-, w1, w2, w3, w4, -, hb, -⟩ := WF_item.1 h
      simp only [tree, Expr.args, Expr.body, List.append_assoc] at hx
      simp only [toks]
      exact (good_append (i1 _ _ _ w1) (good_append (i2 _ _ _ w2) (good_append (i3 _ _ _ w3)
        (good_append (i4 _ _ _ w4) (ib _ _ _ _ hb)))) x hx).cons.cons
  · intro e bg nm a2 a3 a4 b e2 en nm2 i2 i3 i4 ib skip m nx h x hx
    rcases sub_cases hx with rfl | hx
    · exact .inr (.inr ⟨_, skip, m, nx, h, rfl, List.infix_refl _⟩)
    · obtain ⟨-, -, w2, w3, w4, -, -, hb, -⟩ := WF_env.1 h
      simp only [tree, Expr.args, Expr.body, List.append_assoc] at hx
      simp only [toks]
      exact (good_append (i2 _ _ _ w2) (good_append (i3 _ _ _ w3) (good_append (i4 _ _ _ w4)
        fun x hx => (ib _ _ _ _ hb x hx).left)) x hx).right.cons.cons
  · intro e bg nm a2 a3 a4 vb e5 i2 i3 i4 skip m nx h x hx
    rcases sub_cases hx with rfl | hx
    · exact .inr (.inr ⟨_, skip, m, nx, h, rfl, List.infix_refl _⟩)
    · obtain ⟨-, -, w2, w3, w4, -⟩ := WF_venv.1 h
      simp only [tree, Expr.args, Expr.body, List.append_assoc] at hx
      simp only [toks]
      exact (good_append (i2 _ _ _ w2) (good_append (i3 _ _ _ w3) (good_append (i4 _ _ _ w4)
        (good_text _ _ _))) x hx).right.cons.cons
  · intro sp o b c ib m k gk h x hx
    rcases sub_cases hx with rfl | hx
    · exact .inl ⟨_, _, _, rfl⟩
    · simp only [toksArg]
      exact (ib _ _ _ _ (WFarg_unfold h).2.2.2 x hx).left.cons.right
  · rintro _ _ _ _ _ x ⟨y, hy, _⟩
    cases hy
  · rintro e es ie ies _ skip m ctx nx h x ⟨y, hy, hs⟩
    obtain ⟨h1, _, h3, _⟩ := WFs_cons h
    simp only [trees_cons, List.mem_cons] at hy
    simp only [toksS_cons]
    rcases hy with rfl | hy
    · exact (ie _ _ _ h1 x hs).left
    · exact (ies _ _ _ _ h3 x ⟨y, hy, hs⟩).right
  · rintro _ _ _ _ x ⟨y, hy, _⟩
    cases hy
  · rintro a as ia ias m k gk h x ⟨y, hy, hs⟩
    obtain ⟨h1, h2⟩ := WFa_cons h
    simp only [treesA_cons, List.mem_cons] at hy
    simp only [toksA_cons]
    rcases hy with rfl | hy
    · exact (ia _ _ gk h1 x hs).left
    · exact (ias _ _ gk h2 x ⟨y, hy, hs⟩).right

theorem good_arg : ∀ (a : Arg) (m : Mode) (k gk : GKind),
    WFarg m k a = true → ∀ x, Sub x (treeArg gk a) → Good x (toksArg a) := good_grammar.2.1
theorem good_args : ∀ (as : List Arg) (m : Mode) (k gk : GKind),
    WFa m k as = true → ∀ x, SubL x (treesA gk as) → Good x (toksA as) := good_grammar.2.2.2

/-- **Every node anywhere in the parse of a strictly parsing representable input is accounted
for in the token list of the source** (`Good`: groups and text leaves are exempt). -/
theorem good_all {skip : List Str} {s : Str} {es : List Expr} (hin : StrictInput skip s es)
    {x : Expr} (hx : SubL x es) : ∃ ts, tokenize s = some ts ∧ Good x ts := by
  obtain ⟨d, ht, -, hwf, rfl, -, -⟩ := hin.doc
  exact ⟨_, ht, good_grammar.2.2.1 d _ _ _ _ hwf x hx⟩

theorem sub_trans {x y z : Expr} (h1 : Sub x y) (h2 : Sub y z) : Sub x z := by
  induction h2 with
  | refl => exact h1
  | arg ha _ ih => exact .arg ha ih
  | body hy _ ih => exact .body hy ih

theorem sub_of_mem_contents (e : Expr) : ∀ x, x ∈ contentsOf e → Sub x e := by
  induction e using Expr.ind with
  | h e ha _ =>
    intro x hx
    rw [contentsOf_eq] at hx
    rcases List.mem_append.1 hx with hx | hx
    · obtain ⟨a, haa, hxa⟩ := List.mem_flatMap.1 hx
      exact .arg haa (ha a haa x hxa)
    · exact .body (mem_dropBlank.1 hx).1 (.refl x)

theorem sub_of_mem_desc (e : Expr) : ∀ x, x ∈ descOf e → Sub x e := by
  induction e using Expr.contentsInd with
  | h e ih =>
    intro x hx
    rw [descOf_eq] at hx
    rcases List.mem_append.1 hx with hx | hx
    · exact sub_of_mem_contents e x hx
    · obtain ⟨y, hy, hxy⟩ := List.mem_flatMap.1 hx
      exact sub_trans (ih y hy x hxy) (sub_of_mem_contents e y hy)

/-- what `soup.descendants` lists lies in the document -/
theorem subL_of_mem_descRoot {x : Expr} {es : List Expr} (h : x ∈ descRoot es) : SubL x es := by
  simp only [descRoot, List.mem_append] at h
  rcases h with h | h
  · exact ⟨x, (mem_dropBlank.1 h).1, .refl x⟩
  · rw [descList_eq] at h
    obtain ⟨y, hy, hxy⟩ := List.mem_flatMap.1 h
    exact ⟨y, hy, sub_of_mem_desc y x hxy⟩

end TexSoup.AllInputs

namespace TexSoup.C12
open TexSoup TexSoup.Gram TexSoup.AllInputs

/-- **Every math node, anywhere in the tree, is one region of the source and its body is exactly
what the enclosed tokens are read to.** -/
theorem math_node_all (skip : List Str) (s : Str) (es : List Expr) (hin : StrictInput skip s es)
    (k : MKind) (body : List Expr) (pos : Int) (hx : SubL (.math k body pos) es) :
    ∃ (ts : List Tok) (o c : Tok) (bs : List Tok), tokenize s = some ts ∧ (o :: (bs ++ [c])) <:+: ts ∧
      mkindOfBegin o.cat = some k ∧ c.cat = k.tokEnd ∧ (o.pos : Int) = pos ∧
      (∀ (tol : Bool) (rest : List Tok) (f : Nat), 3 * (bs ++ c :: rest).length + 2 ≤ f →
        readMathBody f k tol (bs ++ c :: rest) = .ok (body, c :: rest)) ∧
      (∀ (sk : List Str) (tol : Bool) (m : Mode) (rest : List Tok) (f : Nat),
        3 * (o :: (bs ++ c :: rest)).length + 1 ≤ f →
        readExpr f sk tol m (o :: (bs ++ c :: rest)) = .ok (.math k body pos, rest)) := by
  obtain ⟨ts, hts, hg⟩ := good_all hin hx
  rcases hg with ⟨_, _, _, h⟩ | ⟨_, _, h⟩ | ⟨e, sk0, m0, nx0, hw, ht, hinf⟩
  · cases h
  · cases h
  · cases e with
    | math k' o b c =>
      simp only [tree, Expr.math.injEq] at ht
      obtain ⟨rfl, rfl, rfl⟩ := ht
      obtain ⟨ho, hc, hb⟩ := WF_math.1 hw
      refine ⟨ts, o, c, toksS b, hts, by simpa [toks] using hinf, ho, hc, rfl, ?_, ?_⟩
      · intro tol rest f hf
        exact math_body_complete k' tol c hc b hb rest f hf
      · intro sk tol m rest f hf
        have := readExpr_complete (.math k' o b c) sk tol m rest f (WF_math.2 ⟨ho, hc, hb⟩)
          (by simpa [toks] using hf)
        simpa [toks, tree] using this
    | _ => cases ht

/-- **A named math environment, anywhere in the tree**: it is a verbatim-like environment (one
text, if its name is in the skip list in force at its place) or its body is exactly what the
environment-body reader makes IN MATH MODE of tokens `bs` up to a peeked `\end` (`tail` is left unread), where `bs ++ tail`
is a contiguous part of the source's tokens, whatever follows. -/
theorem math_environment_node_all (skip : List Str) (s : Str) (es : List Expr)
    (hin : StrictInput skip s es) (name : Str) (args body : List Expr) (pos : Int)
    (hx : SubL (.nenv name args body pos) es) (hmath : memStr name Tables.mathEnvNames = true) :
    (∃ u q, body = [.text u q]) ∨
    ∃ (ts : List Tok) (sk : List Str) (bs tail : List Tok) (g : List Expr), tokenize s = some ts ∧
      (bs ++ tail) <:+: ts ∧
      ∀ (tol : Bool) (rest : List Tok) (f : Nat), 3 * (bs ++ (tail ++ rest)).length + 2 ≤ f →
        readEnvBody f sk tol .math (bs ++ (tail ++ rest)) = .ok ((body, some g), tail ++ rest) := by
  obtain ⟨ts, hts, hg⟩ := good_all hin hx
  rcases hg with ⟨_, _, _, h⟩ | ⟨_, _, h⟩ | ⟨e, sk0, m0, nx0, hw, hte, hinf⟩
  · cases h
  · cases h
  · cases e with
    | env e bg nm a2 a3 a4 b e2 en nm2 =>
      right
      simp only [tree, Expr.nenv.injEq] at hte
      obtain ⟨hn, _, hb, _⟩ := hte
      obtain ⟨-, -, -, -, -, -, -, hbw, ⟨hesc2, hen⟩, hnm2, -⟩ := WF_env.1 hw
      rw [hn, C12G.math_environment_body_mode _ _ hmath] at hbw
      subst hb
      refine ⟨ts, sk0, toksS b, e2 :: en :: nm2.toks, [nm2.tree], hts, ?_, ?_⟩
      · refine List.IsInfix.trans ?_ hinf
        exact ⟨e :: bg :: (nm.toks ++ (toksA a2 ++ (toksA a3 ++ toksA a4))), [], by simp [toks]⟩
      · intro tol rest f hf
        have := env_body_complete sk0 tol .math e2 en nm2 hesc2 hen hnm2 b hbw rest f
          (by simpa using hf)
        simpa using this
    | venv e bg nm a2 a3 a4 vb e5 =>
      left
      simp only [tree, Expr.nenv.injEq] at hte
      exact ⟨_, _, hte.2.2.1.symm⟩
    | _ => cases hte

mutual
/-- no content list at or below the node contains a bracket group -/
def nfb : Expr → Bool
  | .text _ _ => true
  | .cmd _ a b _ => nfbL a && nfbL b && b.all (fun x => !isGroupOf .bracket x)
  | .nenv _ a b _ => nfbL a && nfbL b && b.all (fun x => !isGroupOf .bracket x)
  | .math _ b _ => nfbL b && b.all (fun x => !isGroupOf .bracket x)
  | .group _ b _ => nfbL b && b.all (fun x => !isGroupOf .bracket x)
def nfbL : List Expr → Bool
  | [] => true
  | e :: es => nfb e && nfbL es
end

theorem nfbL_append (a b : List Expr) : nfbL (a ++ b) = (nfbL a && nfbL b) := by
  induction a with
  | nil => simp [nfbL]
  | cons e es ih => simp [nfbL, ih, Bool.and_assoc]

theorem tree_not_bracket (e : Elem) : isGroupOf .bracket (tree e) = false := by
  cases e <;> simp [tree, isGroupOf]

theorem trees_no_bracket : ∀ es : List Elem, (trees es).all (fun x => !isGroupOf .bracket x) = true
  | [] => by simp
  | e :: es => by simp [tree_not_bracket e, trees_no_bracket es]

theorem nfb_grammar :
    (∀ e : Elem, nfb (tree e) = true) ∧ (∀ (a : Arg) (k : GKind), nfb (treeArg k a) = true) ∧
    (∀ es : List Elem, nfbL (trees es) = true) ∧
    (∀ (as : List Arg) (k : GKind), nfbL (treesA k as) = true) := by
  apply induct
  · intro t; simp [tree, nfb]
  · intro o b c ib; simp [tree, nfb, ib, trees_no_bracket b]
  · intro k o b c ib; simp [tree, nfb, ib, trees_no_bracket b]
  · intro e n a1 a2 a3 a4 i1 i2 i3 i4
    simp [tree, nfb, nfbL, nfbL_append, i1, i2, i3, i4]
  · intro e n a1 a2 a3 a4 b i1 i2 i3 i4 ib
    simp [tree, nfb, nfbL_append, i1, i2, i3, i4, ib, trees_no_bracket b]
  · intro e bg nm a2 a3 a4 b e2 en nm2 i2 i3 i4 ib
    simp [tree, nfb, nfbL_append, i2, i3, i4, ib, trees_no_bracket b]
  · intro e bg nm a2 a3 a4 vb e5 i2 i3 i4
    simp [tree, nfb, nfbL, nfbL_append, i2, i3, i4, isGroupOf]
  · intro sp o b c ib k; simp [treeArg, nfb, ib, trees_no_bracket b]
  · simp [nfbL]
  · intro e es ie ies _; simp [nfbL, ie, ies]
  · simp [nfbL]
  · intro a as ia ias k; simp [nfbL, ia, ias]

theorem nfb_tree : ∀ e : Elem, nfb (tree e) = true := nfb_grammar.1
theorem nfb_treeArg (k : GKind) : ∀ a : Arg, nfb (treeArg k a) = true := fun a => nfb_grammar.2.1 a k
theorem nfbL_treesA (k : GKind) : ∀ as : List Arg, nfbL (treesA k as) = true :=
  fun as => nfb_grammar.2.2.2 as k

/-- **Square brackets that are no optional argument are text, everywhere** (in math regions,
environments, groups, the contents of `\item`, the document itself): no content list of the tree
contains a bracket group, so an unbalanced `[` or `]` is a text leaf that needs no partner. -/
theorem no_free_bracket_group_all (skip : List Str) (s : Str) (es : List Expr)
    (hin : StrictInput skip s es) :
    nfbL es = true ∧ es.all (fun x => !isGroupOf .bracket x) = true := by
  obtain ⟨d, -, -, -, rfl, -, -⟩ := hin.doc
  exact ⟨nfb_grammar.2.2.1 d, trees_no_bracket d⟩

/-- **Every command node, anywhere in the tree, is spelled by a backslash and ONE name token** (at
the node's position): the delimiter of a sizing command (`\left[`, `\big(` …) is part of that
token (`C12.sizing_command_is_one_token`), not a bracket of its own. -/
theorem command_node_all (skip : List Str) (s : Str) (es : List Expr) (hin : StrictInput skip s es)
    (n : Str) (args body : List Expr) (pos : Int) (hx : SubL (.cmd n args body pos) es) :
    ∃ (ts : List Tok) (esc name : Tok), tokenize s = some ts ∧ [esc, name] <:+: ts ∧
      esc.cat = .Escape ∧ (esc.pos : Int) = pos ∧ strip name.text = n := by
  obtain ⟨ts, hts, hg⟩ := good_all hin hx
  rcases hg with ⟨_, _, _, h⟩ | ⟨_, _, h⟩ | ⟨e, sk0, m0, nx0, hw, hte, hinf⟩
  · cases h
  · cases h
  · cases e with
    | cmd e nm a1 a2 a3 a4 =>
      simp only [tree, Expr.cmd.injEq] at hte
      exact ⟨ts, e, nm, hts, List.IsInfix.trans ⟨[], _, by simp only [toks]; rfl⟩ hinf,
        (WF_cmd.1 hw).1.1, hte.2.2.2, hte.1⟩
    | item e nm a1 a2 a3 a4 b =>
      simp only [tree, Expr.cmd.injEq] at hte
      exact ⟨ts, e, nm, hts, List.IsInfix.trans ⟨[], _, by simp only [toks]; rfl⟩ hinf,
        (WF_item.1 hw).1.1, hte.2.2.2, hte.1⟩
    | _ => cases hte

/-- **Commands inside math (or anywhere among the descendants) stay searchable**: a command
node among `soup.descendants` whose name contains neither `{` nor `[` is among
`soup.find_all(name)`. (Pure tree algebra, for every tree.) -/
theorem command_found_all (es : List Expr) (n : Str) (args body : List Expr) (pos : Int)
    (hmem : Expr.cmd n args body pos ∈ descRoot es)
    (h1 : n.contains 123 = false) (h2 : n.contains 91 = false) :
    Expr.cmd n args body pos ∈ findAllRoot (.name n) es := by
  simp only [findAllRoot, findAllIn, List.mem_filter]
  refine ⟨hmem, ?_⟩
  have h1' : ¬ 123 ∈ n := by simpa using h1
  have h2' : ¬ 91 ∈ n := by simpa using h2
  simp [Expr.isText, matchesQ, Expr.isEnv, Expr.name, h1', h2']

end TexSoup.C12

namespace TexSoup.C09
open TexSoup TexSoup.Gram TexSoup.AllInputs

/-- **C09 for command nodes anywhere in the tree** (`command_args_shape_all` is the top level). -/
theorem command_args_shape_anywhere (skip : List Str) (s : Str) (es : List Expr)
    (hin : StrictInput skip s es) (name : Str) (args body : List Expr) (pos : Int)
    (hx : SubL (.cmd name args body pos) es) :
    ∃ g1 g2 g3 g4, args = g1 ++ (g2 ++ (g3 ++ g4)) ∧
      (∀ x ∈ g1, isBracketG x = true) ∧ (∀ x ∈ g2, isBraceG x = true) ∧
      (∀ x ∈ g3, isBracketG x = true) ∧ (∀ x ∈ g4, isBraceG x = true) := by
  obtain ⟨ts, hts, hg⟩ := good_all hin hx
  rcases hg with ⟨_, _, _, h⟩ | ⟨_, _, h⟩ | ⟨e, sk0, m0, nx0, hw, ht, hinf⟩
  · cases h
  · cases h
  · exact args_shape_of_tree ht

end TexSoup.C09

namespace TexSoup.C14
open TexSoup TexSoup.Gram TexSoup.AllInputs TexSoup.C14G

/-- **`node.args = [args[i] for i in i1 ++ i2 ++ i3 ++ i4]` on a command, for every strictly parsing
input.** The picked groups are brackets, braces, brackets, braces (`hk`, on the tree). The two
conditions that concern what follows the node in the source and the name's signature are stated
for a grammar witness `d` of the input (`hd`): the re-argumented document is well-formed
(`Gram.runOK` at the node) and its squeezed token list is a tokenizer output. They cannot be
dropped: `C14G.interleaved_args_not_read_back`, `C14G.exGlue`. -/
theorem set_args_command_reparse_all (tol : Bool) (skip : List Str) (s : Str) (es : List Expr)
    (hin : StrictInput skip s es) (p : Path) (old : Str) (a b : List Expr) (pos : Int)
    (i1 i2 i3 i4 : List Nat) (hp : p ≠ [])
    (hget : getAtRoot es p = some (.cmd old a b pos)) (hold : (old == sItem) = false)
    (hk : ((pick i1 a).all (isGroupOf .bracket) && (pick i2 a).all (isGroupOf .brace)
      && (pick i3 a).all (isGroupOf .bracket) && (pick i4 a).all (isGroupOf .brace)) = true)
    (huniq : cntSelL (argSel (qAt old pos) qNone i1 i2 i3 i4) es = 1)
    (hd : ∃ d : Doc, tokenize s = some (toksD d) ∧ WFD (Tables.skipEnvNames ++ skip) d = true ∧
      treeD d = es ∧ envNamesPlainS d = true ∧
      WFD (Tables.skipEnvNames ++ skip) (setArgsD (SetA.ofQ (qAt old pos) qNone i1 i2 i3 i4) d) = true ∧
      Separated none (toksD (squeezeD (setArgsD (SetA.ofQ (qAt old pos) qNone i1 i2 i3 i4) d)))) :
    ∃ t2, parse tol skip (serL (applyEdit es (.setArgs p (pick (i1 ++ (i2 ++ (i3 ++ i4))) a)))) = .ok t2 ∧
      shapeL t2 = shapeL (applyEdit es (.setArgs p (pick (i1 ++ (i2 ++ (i3 ++ i4))) a))) ∧
      serL t2 = serL (applyEdit es (.setArgs p (pick (i1 ++ (i2 ++ (i3 ++ i4))) a))) := by
  obtain ⟨d, ht, hwf, rfl, hen, hwf', hsq⟩ := hd
  have hsep := (tokenize_separated hin.chars ht).1
  exact set_args_command_reparse tol skip d p old a b pos i1 i2 i3 i4 hwf hen
    (cmdNamesPlainS_of_separated hwf hsep hen) hp hget hold hk huniq hwf' hsq

theorem set_args_environment_reparse_all (tol : Bool) (skip : List Str) (s : Str) (es : List Expr)
    (hin : StrictInput skip s es) (p : Path) (old : Str) (a b : List Expr) (pos : Int)
    (i2 i3 i4 : List Nat) (hp : p ≠ [])
    (hget : getAtRoot es p = some (.nenv old a b pos)) (hpos : pos ≠ -1)
    (hold : memStr old (Tables.skipEnvNames ++ skip) = false)
    (hk : ((pick i2 a).all (isGroupOf .brace) && (pick i3 a).all (isGroupOf .bracket)
      && (pick i4 a).all (isGroupOf .brace)) = true)
    (huniq : cntSelL (argSel qNone (qAt old pos) [] i2 i3 i4) es = 1)
    (hd : ∃ d : Doc, tokenize s = some (toksD d) ∧ WFD (Tables.skipEnvNames ++ skip) d = true ∧
      treeD d = es ∧ envNamesPlainS d = true ∧
      WFD (Tables.skipEnvNames ++ skip) (setArgsD (SetA.ofQ qNone (qAt old pos) [] i2 i3 i4) d) = true ∧
      Separated none (toksD (squeezeD (setArgsD (SetA.ofQ qNone (qAt old pos) [] i2 i3 i4) d)))) :
    ∃ t2, parse tol skip (serL (applyEdit es (.setArgs p (pick (i2 ++ (i3 ++ i4)) a)))) = .ok t2 ∧
      shapeL t2 = shapeL (applyEdit es (.setArgs p (pick (i2 ++ (i3 ++ i4)) a))) ∧
      serL t2 = serL (applyEdit es (.setArgs p (pick (i2 ++ (i3 ++ i4)) a))) := by
  obtain ⟨d, ht, hwf, rfl, hen, hwf', hsq⟩ := hd
  have hsep := (tokenize_separated hin.chars ht).1
  exact set_args_environment_reparse tol skip d p old a b pos i2 i3 i4 hwf hen
    (cmdNamesPlainS_of_separated hwf hsep hen) hp hget hpos hold hk huniq hwf' hsq

end TexSoup.C14

/-! ## Non-vacuity -/
namespace TexSoup.AllInputs
open TexSoup TexSoup.Gram

private def t (s : Str) (p : Nat) (c : TC) : Tok := ⟨s, p, c⟩

/-- `{$[\left[$}` – a math region inside a group, with an unbalanced bracket and a sizing command -/
def exNested : Doc :=
  [.group (t [123] 0 .GroupBegin)
     [.math .dollar (t [36] 1 .MathSwitch)
        [.leaf (t [91] 2 .BracketBegin),
         .cmd (t [92] 3 .Escape) (t [108, 101, 102, 116, 91] 4 .PunctuationCommandName) [] [] [] []]
        (t [36] 9 .MathSwitch)]
     (t [125] 10 .GroupEnd)]

def srcNested : Str := [123, 36, 91, 92, 108, 101, 102, 116, 91, 36, 125]

theorem inNested : StrictInput [] srcNested (treeD exNested) :=
  strictInput_of_doc [] srcNested exNested (by decide +kernel) (by decide +kernel) (by decide +kernel)
    (by intro n hn; simp [memStr] at hn) (by decide +kernel) (by decide +kernel)

example : treeD exNested =
    [.group .brace [.math .dollar [.text [91] 2, .cmd [108, 101, 102, 116, 91] [] [] 3] 1] 0] := by
  decide +kernel

theorem subNested : SubL (.math .dollar [.text [91] 2, .cmd [108, 101, 102, 116, 91] [] [] 3] 1)
    (treeD exNested) :=
  ⟨_, List.mem_cons_self, .body (e := .group .brace _ 0) List.mem_cons_self (.refl _)⟩

example : ∃ (ts : List Tok) (o c : Tok) (bs : List Tok), tokenize srcNested = some ts ∧
    (o :: (bs ++ [c])) <:+: ts ∧ mkindOfBegin o.cat = some .dollar ∧ c.cat = MKind.dollar.tokEnd ∧
    (o.pos : Int) = 1 ∧
    (∀ (tol : Bool) (rest : List Tok) (f : Nat), 3 * (bs ++ c :: rest).length + 2 ≤ f →
      readMathBody f .dollar tol (bs ++ c :: rest) =
        .ok ([.text [91] 2, .cmd [108, 101, 102, 116, 91] [] [] 3], c :: rest)) ∧ True := by
  obtain ⟨ts, o, c, bs, h1, h2, h3, h4, h5, h6, _⟩ := C12.math_node_all [] srcNested _ inNested _ _ _ subNested
  exact ⟨ts, o, c, bs, h1, h2, h3, h4, h5, h6, trivial⟩

example : C12.nfbL (treeD exNested) = true := (C12.no_free_bracket_group_all [] srcNested _ inNested).1

/-- the sizing command `\left[` inside: one name token `left[` -/
example : ∃ (ts : List Tok) (esc name : Tok), tokenize srcNested = some ts ∧ [esc, name] <:+: ts ∧
    esc.cat = .Escape ∧ (esc.pos : Int) = 3 ∧ strip name.text = [108, 101, 102, 116, 91] :=
  C12.command_node_all [] srcNested _ inNested _ [] [] 3
    ⟨_, List.mem_cons_self, .body (e := .group .brace _ 0) List.mem_cons_self
      (.body (e := .math .dollar _ 1) (List.mem_cons_of_mem _ List.mem_cons_self) (.refl _))⟩

example : ∃ g1 g2 g3 g4, ([] : List Expr) = g1 ++ (g2 ++ (g3 ++ g4)) ∧
    (∀ x ∈ g1, isBracketG x = true) ∧ (∀ x ∈ g2, isBraceG x = true) ∧
    (∀ x ∈ g3, isBracketG x = true) ∧ (∀ x ∈ g4, isBraceG x = true) :=
  C09.command_args_shape_anywhere [] srcNested _ inNested [108, 101, 102, 116, 91] [] [] 3
    ⟨_, List.mem_cons_self, .body (e := .group .brace _ 0) List.mem_cons_self
      (.body (e := .math .dollar _ 1) (List.mem_cons_of_mem _ List.mem_cons_self) (.refl _))⟩

/-- the command inside the math region inside the group is a descendant and is found -/
example : Expr.cmd [120] [] [] 3 ∈ findAllRoot (.name [120])
    [.group .brace [.math .dollar [.text [91] 2, .cmd [120] [] [] 3] 1] 0] :=
  C12.command_found_all _ [120] [] [] 3 (by decide +kernel) (by decide +kernel) (by decide +kernel)

/-- **C11 does not hold "anywhere"**: inside a brace group no skip list is in force –
`{\begin{verbatim}\x\end{verbatim}}` has an interpreted body (a command node), while at top level
the body of `verbatim` is one text. -/
theorem verbatim_in_group_is_interpreted :
    (match parse false [] [123, 92, 98, 101, 103, 105, 110, 123, 118, 101, 114, 98, 97, 116, 105, 109, 125,
        92, 120, 92, 101, 110, 100, 123, 118, 101, 114, 98, 97, 116, 105, 109, 125, 125] with
      | .ok [.group _ [.nenv n _ [.cmd c _ _ _] _] _] => (n, c)
      | _ => ([], [])) = ([118, 101, 114, 98, 97, 116, 105, 109], [120]) ∧
    (match parse false [] [92, 98, 101, 103, 105, 110, 123, 118, 101, 114, 98, 97, 116, 105, 109, 125,
        92, 120, 92, 101, 110, 100, 123, 118, 101, 114, 98, 97, 116, 105, 109, 125] with
      | .ok [.nenv n _ [.text u _] _] => (n, u)
      | _ => ([], [])) = ([118, 101, 114, 98, 97, 116, 105, 109], [92, 120]) := by
  decide +kernel

/-- `.args =` for all inputs: `\x[b][d]{a}{c}` (`C14G.exArgs`), the reversal `{c}{a}[d][b]` -/
def srcArgs : Str := [92, 120, 91, 98, 93, 91, 100, 93, 123, 97, 125, 123, 99, 125]

theorem tokArgs : tokenize srcArgs = some (toksD C14G.exArgs) := by decide +kernel

theorem inArgs : StrictInput [] srcArgs (treeD C14G.exArgs) :=
  strictInput_of_doc [] srcArgs C14G.exArgs (by decide +kernel) tokArgs (by decide +kernel)
    (by intro n hn; simp [memStr] at hn) (by decide +kernel) (by decide +kernel)

example : ∃ t2, parse false [] (serL (applyEdit (treeD C14G.exArgs) (.setArgs [.body 0]
      (pick ([] ++ ([3, 2] ++ ([1, 0] ++ []))) [.group .bracket [.text [98] 3] 2, .group .bracket [.text [100] 6] 5,
        .group .brace [.text [97] 9] 8, .group .brace [.text [99] 12] 11])))) = .ok t2 ∧ True :=
  let ⟨t2, h, _⟩ := C14.set_args_command_reparse_all false [] srcArgs _ inArgs [.body 0] [120] _ [] 0
    [] [3, 2] [1, 0] [] (by decide) (by rfl) (by decide +kernel) (by decide +kernel) (by decide +kernel)
    ⟨C14G.exArgs, tokArgs, by decide +kernel, rfl, by decide +kernel, by decide +kernel, by decide +kernel⟩
  ⟨t2, h, trivial⟩

end TexSoup.AllInputs
