import TexSoupProofs.Reader.Progress
import TexSoupProofs.Properties.C06
/-!
# C07 (b) for a lost closing BRACKET – where the clause holds and where not

"… a well-formed document that has lost one closing brace, bracket or `\end{name}`: strict
parsing reports an error and tolerant parsing succeeds."

For braces and `\end{name}` this is `C07b.lost_closer` (a counting argument: every `{` needs its
`}`). Brackets cannot be counted: `[` and `]` that are no optional argument are plain text.
What is true, and proved here on the reader functions:

 * `readArgBody_closer` / `readArg_closer`: an argument group that is read in strict mode ends
   at a closer token of its kind – the strict reader never returns from an argument body at the
   end of the input or anywhere else;
 * `readArgOpt_commits`: at a `[` (after an optional spacer) behind a command that takes optional
   arguments the reader is *committed*: if no `]` token follows in the rest of the input, reading
   the optional argument does not succeed in strict mode – it is one of the diagnostic errors (or
   out of fuel), `readArgOpt_commits_error`. A `}` does **not** end the search: inside an unclosed
   `[` a closing brace is a text leaf (`read_expr` keeps a stray closer), so the condition is about
   the whole rest of the input, not about the enclosing group;
 * `lost_bracket_counterexample`: with a later `]` the clause is FALSE – `\x[a]b]c` is well-formed
   (the second `]` is text); without the first `]` the text `\x[ab]c` parses strictly, the stray
   `]` closes the argument. Tolerant parsing succeeds as well.
 * `lost_bracket_example`: `\x[ab` and `{\x[ab}c` (no `]` later): strict parsing reports an error,
   tolerant parsing succeeds.

**Not proved** (what a document-level theorem "for every well-formed document …" still needs):
that the error of `readArgOpt` at the damaged command propagates to `parse`. Every strict reader
function propagates errors (`Res.bind`), but to reach the damaged command the elements in front
of it have to be read exactly at every enclosing level (five loops, the argument runs and the two
look-aheads): "prefix read back, then error" versions of the completeness lemmas of
`Complete/`, which do not exist yet. The counting proofs of `Reader/Balance.lean` do not transfer
(brackets are not balanced in well-formed documents).
-/
namespace TexSoup.C07b

/-- **A strictly read argument body ends at a closer of its kind.** -/
theorem readArgBody_closer : ∀ (f : Nat) (k : GKind) (mode : Mode) (ts : List Tok) (es : List Expr)
    (rest : List Tok), readArgBody f k false mode ts = .ok (es, rest) → ∃ t ∈ ts, t.cat = k.tokEnd := by
  intro f
  induction f with
  | zero => intro k mode ts es rest h; simp [readArgBody] at h
  | succ f ih =>
    intro k mode ts es rest h
    unfold readArgBody at h
    cases ts with
    | nil => simp at h
    | cons t r =>
      simp only at h
      by_cases hend : (t.cat == k.tokEnd) = true
      · exact ⟨t, List.mem_cons_self, by simpa using hend⟩
      · rw [if_neg hend] at h
        obtain ⟨e, ts1, he, h⟩ := Res.bind_eq_ok.mp h
        obtain ⟨es', ts2, hb, _⟩ := Res.bind_eq_ok.mp h
        obtain ⟨u, hu, hc⟩ := ih k mode ts1 es' ts2 hb
        obtain ⟨c, hts⟩ := (readExpr_ssuf he).suf
        exact ⟨u, hts ▸ List.mem_append_right c hu, hc⟩

theorem readArg_closer (f : Nat) (k : GKind) (pos : Int) (mode : Mode) (ts : List Tok) (e : Expr)
    (rest : List Tok) (h : readArg f k pos false mode ts = .ok (e, rest)) : ∃ t ∈ ts, t.cat = k.tokEnd := by
  cases f with
  | zero => simp [readArg] at h
  | succ f =>
    unfold readArg at h
    obtain ⟨b, ts1, hb, _⟩ := Res.bind_eq_ok.mp h
    exact readArgBody_closer f k mode ts b ts1 hb

/-- **At a `[` the strict reader is committed**: the command still takes optional arguments
(`n ≠ 0`), the next token after an optional spacer is `[`, and no `]` token follows – then
reading the optional arguments does not succeed. -/
theorem readArgOpt_commits (f : Nat) (n : Int) (mode : Mode) (ts : List Tok) (o : Tok) (r : List Tok)
    (hn : n ≠ 0) (hts : (readSpacer ts).2 = o :: r) (ho : o.cat = .BracketBegin)
    (hno : ∀ t ∈ r, t.cat ≠ .BracketEnd) :
    ∀ x, readArgOpt f n false mode ts ≠ .ok x := by
  intro x h
  cases f with
  | zero => simp [readArgOpt] at h
  | succ f =>
    unfold readArgOpt at h
    have hn' : (n == 0) = false := by simpa using hn
    simp only [hn', Bool.false_eq_true, if_false, hts, ho, beq_self_eq_true, if_true] at h
    obtain ⟨g, ts1, hg, _⟩ := Res.bind_eq_ok.mp h
    obtain ⟨t, ht, hc⟩ := readArg_closer f .bracket _ mode r g ts1 hg
    exact hno t ht hc

/-- … hence, with the totality of the reader, what it reports is an error. -/
theorem readArgOpt_commits_error (f : Nat) (n : Int) (mode : Mode) (ts : List Tok) (o : Tok) (r : List Tok)
    (hn : n ≠ 0) (hts : (readSpacer ts).2 = o :: r) (ho : o.cat = .BracketBegin)
    (hno : ∀ t ∈ r, t.cat ≠ .BracketEnd) : ∃ e, readArgOpt f n false mode ts = .error e := by
  cases h : readArgOpt f n false mode ts with
  | error e => exact ⟨e, rfl⟩
  | ok x => exact absurd h (readArgOpt_commits f n mode ts o r hn hts ho hno x)

/-- **Document level, the command at the beginning of the input**: `\name`, an optional spacer,
`[`, and no `]` token in the rest of the input; `name` is a command that takes optional arguments
(`hopt`; `\item` is one). Strict parsing does not succeed. -/
theorem lost_bracket_at_start (skip : List Str) (s : Str) (esc name o : Tok) (ts r : List Tok)
    (ht : tokenize s = some (esc :: name :: ts)) (hesc : esc.cat = .Escape)
    (hopt : (cmdSig (-1) (-1) name.text).2 ≠ 0)
    (hts : (readSpacer ts).2 = o :: r) (ho : o.cat = .BracketBegin)
    (hno : ∀ t ∈ r, t.cat ≠ .BracketEnd) : ∀ es, parse false skip s ≠ .ok es := by
  intro es h
  rw [parse_eq_readTex ht] at h
  obtain ⟨f, hf⟩ : ∃ f, parseFuel (esc :: name :: ts) = f + 4 := ⟨4 * (esc :: name :: ts).length + 4, by
    simp [parseFuel]⟩
  rw [hf] at h
  unfold readTex at h
  simp only at h
  cases hE : readExpr (f + 3) (Tables.skipEnvNames ++ skip) false .nonMath (esc :: name :: ts) with
  | ok v =>
    exfalso
    unfold readExpr at hE
    simp only [hesc, beq_self_eq_true, if_true] at hE
    obtain ⟨na, ts1, hc, _⟩ := Res.bind_eq_ok.mp hE
    unfold readCommand at hc
    simp only at hc
    obtain ⟨args, ts2, ha, _⟩ := Res.bind_eq_ok.mp hc
    unfold readArgs at ha
    have hz : ((cmdSig (-1) (-1) name.text).1 == 0 && (cmdSig (-1) (-1) name.text).2 == 0) = false := by
      have : ((cmdSig (-1) (-1) name.text).2 == 0) = false := by simpa using hopt
      rw [this]; simp
    simp only [hz, Bool.false_eq_true, if_false] at ha
    obtain ⟨an1, ts3, h1, _⟩ := Res.bind_eq_ok.mp ha
    exact readArgOpt_commits f _ _ ts o r hopt hts ho hno _ h1
  | error e => rw [hE] at h; cases h

/-! ## The clause is false when a stray `]` follows -/

/-- `\x[a]b]c` – well-formed: the second `]` is text. -/
def srcStray : Str := [92, 120, 91, 97, 93, 98, 93, 99]
/-- … without its first `]`: `\x[ab]c` -/
def srcStrayLost : Str := [92, 120, 91, 97, 98, 93, 99]

/-- **Counterexample to clause (b) for brackets.** The original parses strictly to the command
with the argument `[a]` followed by the texts `b`, `]`, `c`; after the loss of the closing bracket
of the argument the text STILL parses strictly (the stray `]` closes the argument: `[ab]`, then
`c`) – no error is reported. Tolerant parsing succeeds, too. -/
theorem lost_bracket_counterexample :
    (match parse false [] srcStray with
      | .ok [.cmd n [.group .bracket [.text a _] _] [] _, .text b _, .text c _, .text d _] => (n, a, b, c, d)
      | _ => ([], [], [], [], [])) = ([120], [97], [98], [93], [99]) ∧
    (match parse false [] srcStrayLost with
      | .ok [.cmd n [.group .bracket [.text a _] _] [] _, .text c _] => (n, a, c)
      | _ => ([], [], [])) = ([120], [97, 98], [99]) ∧
    (parse true [] srcStrayLost).toBool = true := by
  decide +kernel

/-! ## … and holds in the examples without one -/

/-- `\x[ab` and `{\x[ab}c` -/
def srcLost1 : Str := [92, 120, 91, 97, 98]
def srcLost2 : Str := [123, 92, 120, 91, 97, 98, 125, 99]

theorem lost_bracket_example :
    (parse false [] srcLost1).toBool = false ∧ (parse true [] srcLost1).toBool = true ∧
    (parse false [] srcLost2).toBool = false ∧ (parse true [] srcLost2).toBool = true := by
  decide +kernel

/-- `lost_bracket_at_start` applies to `\x[ab`. -/
example : ∀ es, parse false [] srcLost1 ≠ .ok es :=
  lost_bracket_at_start [] srcLost1 ⟨[92], 0, .Escape⟩ ⟨[120], 1, .CommandName⟩ ⟨[91], 2, .BracketBegin⟩
    [⟨[91], 2, .BracketBegin⟩, ⟨[97, 98], 3, .Text⟩] [⟨[97, 98], 3, .Text⟩] (by decide +kernel) rfl
    (by decide +kernel) (by decide +kernel) rfl (by decide +kernel)

end TexSoup.C07b
