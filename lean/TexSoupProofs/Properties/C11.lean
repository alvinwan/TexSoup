import TexSoupProofs.Reader.Leaves
import TexSoupProofs.Properties.TokHyp
import TexSoupProofs.Properties.TestVectors
/-!
# C11 – Verbatim-like environments are opaque

Proved here: (reader, all token lists) the body is read as a single uninterpreted text up to
the first token boundary where `\end{name}` starts, whatever the body contains, and no error
is possible; without a marker the result is the unclosed-environment diagnostic; the name
enters only through the marker, so user-supplied and built-in names are indistinguishable;
(tokenizer, all inputs without NUL/DEL) for a plain name, `\end{name}` at a token boundary is
spelled by exactly five tokens – in particular for all built-in names. For documents of the
grammar, and from there for every strictly parsing input, the statement is
`C11Grammar.lean` (`verbatim_is_one_text`) and `AllInputs.lean` (`C11.verbatim_is_one_text_all`).
-/
namespace TexSoup.C11

theorem body_is_opaque (name : Str) (args : List Expr) (pos : Int) (body e5 rest : List Tok)
    (hno : ∀ pre suf, body = pre ++ suf → suf ≠ [] →
      bufStartsWith (endMarker name) (suf ++ (e5 ++ rest)) = false)
    (h5 : e5.length = 5) (hend : bufStartsWith (endMarker name) (e5 ++ rest) = true) :
    readSkipEnv name args pos (body ++ (e5 ++ rest)) =
      .ok (.nenv name args [.text (flat body) (match body ++ (e5 ++ rest) with
        | t :: _ => (t.pos : Int)
        | [] => -1)] pos, rest) :=
  skip_env_opaque name args pos body e5 rest hno h5 hend

theorem unclosed_is_diagnostic (name : Str) (args : List Expr) (pos : Int) (ts : List Tok)
    (hno : ∀ pre suf, ts = pre ++ suf → suf ≠ [] → bufStartsWith (endMarker name) suf = false) :
    readSkipEnv name args pos ts = .error .eof :=
  skip_env_unclosed name args pos ts hno

/-- the end marker of a plain name occupies exactly five tokens -/
theorem end_marker_is_five_tokens {s : Str} {ts : List Tok}
    (hs : ∀ c ∈ s, isIgnored (catOf c) = false) (h : tokenize s = some ts) {name : Str}
    (hpl : PlainEnvName name) : ∀ pre rest, ts = pre ++ rest →
      bufStartsWith (endMarker name) rest = true → flat (rest.take 5) = endMarker name :=
  tokens_skipPlain hs h hpl

theorem builtin_names_plain : ∀ n ∈ Tables.skipEnvNames, PlainEnvName n := skipEnvNames_plainEnvName

/-! Non-vacuity: a body with unbalanced delimiters and a math switch. -/
example : readSkipEnv [118] [] 0
    ([⟨[123], 3, .GroupBegin⟩, ⟨[36], 4, .MathSwitch⟩] ++
      ([⟨[92], 5, .Escape⟩, ⟨[101, 110, 100], 6, .CommandName⟩, ⟨[123], 9, .GroupBegin⟩,
        ⟨[118], 10, .Text⟩, ⟨[125], 11, .GroupEnd⟩] ++ [⟨[120], 12, .Text⟩])) =
    .ok (.nenv [118] [] [.text [123, 36] 3] 0, [⟨[120], 12, .Text⟩]) := by decide +kernel

end TexSoup.C11
