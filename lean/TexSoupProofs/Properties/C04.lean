import TexSoupProofs.NavPathLemmas
import TexSoupProofs.Properties.TestVectors
/-!
# C04 - Navigation views of a node are mutually consistent

"For every node of a parsed document: `contents` is the node's complete content list
(`expr.all`) without whitespace-only text, `children` is `contents` without text, iteration and
indexing follow `contents`, `descendants` is exactly the transitive closure of `contents`
(every node once), `text` lists the non-blank text leaves in document order, and at the root
the complete content list concatenates to the whole document. The `parent` of every node
reached through any of these views is the node it was reached from, so walking parents from
any descendant ends at the root."

All theorems hold for every tree (no bound on size or depth). The root `[tex]` is
`rootWrap es`; `descRoot es = descOf (rootWrap es)` (`descRoot_eq_wrap`), so every statement
about a node is also a statement about the root. Statements that compare a path-annotated
view with the plain view need `Expr.flatArgs`: no argument has arguments of its own (true of
all trees the parser builds: arguments are groups or bare `TexCmd(name)`).
-/
namespace TexSoup.C04
open TexSoup

/-- a small tree: `\begin{i}[ \b]⏎\it A$B${C}\end{i}` -/
def sample : Expr :=
  .nenv [105] [.group .bracket [.text [32] 10, .cmd [98] [] [] 11] 9]
    [.text [10] 14,
     .cmd [105, 116] [] [.text [65] 18, .math .dollar [.text [66] 20] 19] 15,
     .group .brace [.text [67] 23] 22] 0

/-- `contents` is `expr.all` without whitespace-only text. -/
theorem contents_eq (e : Expr) : contentsOf e = (allOf e).filter (fun x => !x.isBlankText) := rfl

/-- `expr.all`: the `contents` of every argument, then `_contents`. -/
theorem all_eq (e : Expr) : allOf e = e.args.flatMap contentsOf ++ e.body := by
  rw [allOf_eq, argsContents_eq]

/-- `children` is `contents` without text. -/
theorem children_eq (e : Expr) : childrenOf e = (contentsOf e).filter (fun x => !x.isText) := rfl

/-- iteration follows `contents` -/
theorem iter_eq (e : Expr) : nodeIter e = contentsOf e := rfl

/-- indexing follows `contents` -/
theorem getitem_eq (e : Expr) (i : Nat) : nodeGetItem e i = (contentsOf e)[i]? := rfl

theorem contents_map_snd {e : Expr} (h : e.flatArgs = true) :
    (contentsP e).map Prod.snd = contentsOf e :=
  contentsP_map_snd (fun _ ha => (flatArgs_args h ha).1)

/-- `contentsP e` lists exactly the non-blank nodes one step below `e`, each step once. -/
theorem contents_steps (e : Expr) :
    (∀ st x, (st, x) ∈ contentsP e ↔ stepGet e st = some x ∧ x.isBlankText = false) ∧
      ((contentsP e).map Prod.fst).Nodup :=
  ⟨fun _ _ => mem_contentsP, contentsP_nodup e⟩

example : contentsOf sample =
    [.cmd [98] [] [] 11,
     .cmd [105, 116] [] [.text [65] 18, .math .dollar [.text [66] 20] 19] 15,
     .group .brace [.text [67] 23] 22] := by decide +kernel
example : (contentsP sample).map Prod.fst = [.arg 0 1, .body 1, .body 2] := by decide +kernel
example : sample.flatArgs = true := by decide +kernel

/-- The Python definition: `chain(self.contents, *[c.descendants for c in self.children])`. -/
theorem descendants_unfold (e : Expr) :
    descOf e = contentsOf e ++ (childrenOf e).flatMap descOf := by
  rw [descOf_eq e, childrenOf,
    flatMap_filter_of_nil _ descOf (fun x hx => descOf_of_isText (by simpa using hx))]

/-- `closure` is the pre-order transitive closure of `contents`. -/
theorem closure_unfold (e : Expr) :
    closure e = (contentsOf e).flatMap (fun x => x :: closure x) := closure_eq e

/-- `descendants` is the transitive closure of `contents`, up to order (`descendants` lists
the contents of a node before going deeper, `closure` is pre-order). -/
theorem descendants_closure (e : Expr) : (descOf e).Perm (closure e) := desc_perm_closure e

theorem descendants_closure_root (es : List Expr) : (descRoot es).Perm (closureRoot es) := by
  rw [descRoot_eq_wrap, closureRoot_eq_wrap]
  exact desc_perm_closure _

theorem descendants_closure_paths (e : Expr) : (descP [] e).Perm (closureP [] e) :=
  descP_perm_closureP [] e

/-- Every node once: no path occurs twice among the descendants, and the node listed with a
path is the node at that path. -/
theorem descendants_once (e : Expr) :
    ((descP [] e).map Prod.fst).Nodup ∧ ∀ p x, (p, x) ∈ descP [] e → getAt e p = some x :=
  ⟨descP_nodup e, fun _ _ h => (mem_descP_iff.1 h).2.1⟩

/-- None missing, none spurious: the descendants are exactly the non-blank nodes at the
non-empty paths below `e` (a path cannot pass through text, so every node on the way is a
command or environment). -/
theorem descendants_complete (e : Expr) (p : Path) (x : Expr) :
    (p, x) ∈ descP [] e ↔ p ≠ [] ∧ getAt e p = some x ∧ x.isBlankText = false := mem_descP_iff

theorem desc_map_snd {e : Expr} (h : e.flatArgs = true) : (descP [] e).map Prod.snd = descOf e :=
  descP_map_snd h []

theorem desc_map_snd_root {es : List Expr} (h : flatArgsL es = true) :
    (descRootP es).map Prod.snd = descRoot es := by
  rw [descRootP, descRoot_eq_wrap]
  exact descP_map_snd (by rw [flatArgs_rootWrap]; exact h) []

example : descOf sample =
    [.cmd [98] [] [] 11,
     .cmd [105, 116] [] [.text [65] 18, .math .dollar [.text [66] 20] 19] 15,
     .group .brace [.text [67] 23] 22,
     .text [65] 18, .math .dollar [.text [66] 20] 19, .text [66] 20, .text [67] 23] := by decide +kernel
example : (descP [] sample).map Prod.fst =
    [[.arg 0 1], [.body 1], [.body 2], [.body 1, .body 0], [.body 1, .body 1],
     [.body 1, .body 1, .body 0], [.body 2, .body 0]] := by decide +kernel
example : closure sample =
    [.cmd [98] [] [] 11,
     .cmd [105, 116] [] [.text [65] 18, .math .dollar [.text [66] 20] 19] 15,
     .text [65] 18, .math .dollar [.text [66] 20] 19, .text [66] 20,
     .group .brace [.text [67] 23] 22, .text [67] 23] := by decide +kernel

/-- The parent of a descendant (the node at `path.dropLast`) is the node whose `contents`
produced it. -/
theorem parent_is_source {e x : Expr} {p q : Path} {st : Step} (h : (p, x) ∈ descP [] e)
    (hp : p = q ++ [st]) : ∃ y, getAt e q = some y ∧ (st, x) ∈ contentsP y ∧ parentPath p = q := by
  subst hp
  obtain ⟨y, h1, h2⟩ := parent_of_mem_descP h
  exact ⟨y, h1, h2, by simp [parentPath]⟩

/-- Every descendant has a parent: its path is not empty. -/
theorem descendant_has_parent {e x : Expr} {p : Path} (h : (p, x) ∈ descP [] e) :
    ∃ q st, p = q ++ [st] := by
  have := (mem_descP_iff.1 h).1
  exact ⟨p.dropLast, p.getLast this, (List.dropLast_concat_getLast this).symm⟩

/-- Walking parents from a descendant stays inside the tree and, after as many steps as the
path is long, ends at the node the view was taken from (for `descRootP`: the root). -/
theorem parent_chain_reaches_root {e x : Expr} {p : Path} (h : (p, x) ∈ descP [] e) :
    ancestorPath p.length p = [] ∧ getAt e (ancestorPath p.length p) = some e ∧
      ∀ k, ∃ y, getAt e (ancestorPath k p) = some y := by
  refine ⟨ancestorPath_length p, by rw [ancestorPath_length]; rfl, fun k => ?_⟩
  rw [ancestorPath_eq_take]
  obtain ⟨y, hy, _⟩ := getAt_take (mem_descP_iff.1 h).2.1 (p.length - k)
  exact ⟨y, hy⟩

example : ([.body 1, .body 1, .body 0], Expr.text [66] 20) ∈ descP [] sample :=
  (descendants_complete _ _ _).2 ⟨by simp, rfl, rfl⟩
example : getAt sample [.body 1, .body 1] = some (.math .dollar [.text [66] 20] 19) := by decide +kernel
example : ancestorPath 2 [Step.body 1, .body 1, .body 0] = [.body 1] := by decide +kernel

/-- `text` lists the non-blank text leaves (`leaves`: arguments, then body, as `str()` does). -/
theorem text_in_document_order (e : Expr) :
    textOf e = (leaves e).filter (fun x => !x.isBlankText) := text_eq_filter.1 e

theorem text_in_document_order_root (es : List Expr) :
    textRoot es = (leavesRoot es).filter (fun x => !x.isBlankText) := (text_eq_filter.2 es).1

/-- `leaves` is in document order: the leaves' text is a subsequence of `str(expr)`. -/
theorem leaves_in_ser_order (e : Expr) : ((leaves e).flatMap ser).Sublist (ser e) :=
  leaves_sublist.1 e

theorem leaves_in_ser_order_root (es : List Expr) :
    ((leavesRoot es).flatMap ser).Sublist (serL es) := (leaves_sublist.2 es).1

/-- The Python generator: each element of `contents` itself if it is text, else its `text`. -/
theorem text_unfold (e : Expr) :
    textOf e = (contentsOf e).flatMap (fun x => if x.isText then [x] else textOf x) := textOf_eq e

/-- `text` is the text part of the pre-order closure of `contents`. -/
theorem text_eq_closure_text (e : Expr) : textOf e = (closure e).filter (·.isText) := by
  induction e using Expr.contentsInd with
  | h e ih =>
    rw [textOf_eq, closure_eq, List.filter_flatMap]
    refine flatMap_congr' (fun x hx => ?_)
    by_cases hxt : x.isText = true
    · simp [hxt, closure_of_isText hxt]
    · simp [hxt, ih x hx]

example : textOf sample = [.text [65] 18, .text [66] 20, .text [67] 23] := by decide +kernel
example : leaves sample =
    [.text [32] 10, .text [10] 14, .text [65] 18, .text [66] 20, .text [67] 23] := by decide +kernel

/-- At the root the complete content list is the stored list, and it concatenates to the
whole document. -/
theorem root_all_concat (es : List Expr) :
    allOf (rootWrap es) = es ∧ serL es = (es.map ser).flatten :=
  ⟨by simp [rootWrap, allOf, argsContents], serL_eq_flatten es⟩

/-- The descendants of the root, with paths: exactly the non-blank nodes of the document,
each at its own path, no path twice. -/
theorem descendants_root (es : List Expr) :
    (∀ p x, (p, x) ∈ descRootP es ↔ p ≠ [] ∧ getAtRoot es p = some x ∧ x.isBlankText = false) ∧
      ((descRootP es).map Prod.fst).Nodup :=
  ⟨fun _ _ => mem_descP_iff, descP_nodup _⟩

/-- The parent of a descendant of the root is the node (or the root itself, `q = []`) whose
`contents` produced it. -/
theorem parent_is_source_root {es : List Expr} {x : Expr} {q : Path} {st : Step}
    (h : (q ++ [st], x) ∈ descRootP es) :
    ∃ y, getAtRoot es q = some y ∧ (st, x) ∈ contentsP y :=
  parent_of_mem_descP h

theorem root_contents (es : List Expr) : contentsOf (rootWrap es) = dropBlank es :=
  contentsOf_rootWrap es

theorem root_descendants (es : List Expr) : descRoot es = descOf (rootWrap es) :=
  descRoot_eq_wrap es

example : serL [sample] = [92, 98, 101, 103, 105, 110, 123, 105, 125, 91, 32, 92, 98, 93, 10, 92,
    105, 116, 65, 36, 66, 36, 123, 67, 125, 92, 101, 110, 100, 123, 105, 125] := by decide +kernel

end TexSoup.C04
