import TexSoupProofs.EditLemmasHist
import TexSoupProofs.Properties.C14
import TexSoupModel.ArgsEdit
import TexSoupProofs.EditLemmasLegacy
/-!
# C15 – any history of edits refines a string-splicing reference model

"After any sequence of edits ... the serialised text equals that of a simple reference
document model subjected to the same edits. After every step, search results, descendants,
parent links and the text view computed on the edited tree are mutually consistent -
inserted material included - and nodes that were not targeted are never altered, duplicated
or lost."

The reference model (`TexSoupProofs/EditLemmasHist.lean`) is the serialised string; an edit
is resolved, against the *current* tree, into one splice `(offset, length, new text)`
(`resolve`), and `refApply` performs it on the string (`refRun` folds this over a history,
following the tree only to resolve the next target). Edits that the implementation refuses
resolve to `none` and are no-ops on both sides.

Consistency of the views: in the model `contents`/`children`/`descendants`/`text`/`find_all`
are functions of the one tree value (`Nav.lean`), and the correspondence harness
(`harness/lib_edit.py`) checks after every step that the implementation's tree – with the
inserted material stored as plain expressions – is that value; "never altered, duplicated or
lost" is C05 `edit_preserves_others` / C14 `node_edit_preserves_others`, which hold at every
step of a history because they hold for every document.
-/
namespace TexSoup.C15
open TexSoup TexSoup.Edit

/-- One step: the text after an edit is the text before, spliced as `resolve` says. -/
theorem step_refines (es : List Expr) (op : EditOp) :
    serL (applyEdit es op) = match resolve es op with
      | some r => refApply (serL es) r
      | none => serL es := by
  cases op with
  | rename p n =>
    by_cases hp : p = []
    · subst hp; rfl
    · simp only [resolve, isEmpty_false_of_ne hp, Bool.false_eq_true, if_false]
      have hE := applyEditE_rename (es := es) n hp
      cases hy : getAtRoot es p with
      | none => rw [applyEdit_of_none (hE.trans (updAt_none _ hy))]
      | some y =>
        cases y with
        | cmd old a b pos =>
          obtain ⟨k, hk, _, hser⟩ := C14.rename_splice_cmd es p old n a b pos hp hy
          simp only [hk]
          exact hser
        | nenv old a b pos =>
          obtain ⟨k, hk, _, hser⟩ := node_edit_splice (C := strBegin)
            (M := old ++ ((125 :: (serL a ++ (serL b ++ strEnd))) ++ old))
            (M' := n ++ ((125 :: (serL a ++ (serL b ++ strEnd))) ++ n)) (D := [125])
            (y' := .nenv n a b pos) hp hy rfl hE (by simp [ser]) (by simp [ser])
          simp only [hk, hser, refApply]
          congr 2
          simp [strEnd]
          omega
        | text _ _ | math _ _ _ | group _ _ _ =>
          rw [applyEdit_of_none (hE.trans (updAt_fail hy rfl))]
  | setArgs p as =>
    by_cases hp : p = []
    · subst hp; rfl
    · simp only [resolve, isEmpty_false_of_ne hp, Bool.false_eq_true, if_false]
      have hE := applyEditE_setArgs (es := es) as hp
      cases hy : getAtRoot es p with
      | none => rw [applyEdit_of_none (hE.trans (updAt_none _ hy))]
      | some y =>
        cases ha : y.hasArgs with
        | true =>
          obtain ⟨k, hk, _, hser⟩ := C14.setArgs_splice es p y as hp hy ha
          simp only [hk, ha, if_true]
          exact hser
        | false =>
          rw [applyEdit_of_none (hE.trans (updAt_fail hy (setArgsE_none as ha)))]
          cases offAtRoot es p <;> simp [ha]
  | _ => exact resolveSite_step (by intros; simp) (by intros; simp)

example : resolve Legacy.twins (.delete [.body 2]) = some (4, 2, []) := by decide +kernel

/-- After any history (any length, any tree, failing edits included) the serialised text
equals the reference string subjected to the same, resolved, edits. -/
theorem history_refines : ∀ (ops : List EditOp) (es : List Expr),
    serL (applyEdits es ops) = refRun es (serL es) ops := by
  intro ops
  induction ops with
  | nil => intro es; rfl
  | cons op ops ih =>
    intro es
    show serL (applyEdits (applyEdit es op) ops) =
      refRun (applyEdit es op) (refStep es (serL es) op) ops
    rw [ih]
    exact congrArg (refRun _ · ops) (step_refines es op)

example : refRun Legacy.twins (serL Legacy.twins)
    [.delete [.body 2], .insert [] 0 [.text [115] (-1)], .rename [.body 1] [113]]
    = [115, 92, 113, 32, 121, 32, 122] := by decide +kernel

/-- The invariant `listOK` (= `TreeOK` of every node: every element of every `args` list is
a group or a bare command) is preserved by every edit whose new material satisfies it
(`OpOK`: material of `replace`/`insert`/`append` is `listOK`, material of `setArgs` is
`argsOK`, and `setString` is not aimed at a command whose single argument is a bare
command – that edit gives the bare command contents, in the implementation too). -/
theorem edit_preserves_wellformed (es : List Expr) (op : EditOp)
    (hes : listOK es = true) (hop : OpOK es op) : listOK (applyEdit es op) = true := by
  cases hs : siteOf es op with
  | some σ =>
    obtain ⟨hns, hsh⟩ := siteOf_ok hes hop hs
    exact site_ok hs hes hns hsh
  | none =>
    cases op with
    | rename p n =>
      unfold applyEdit
      cases hR : applyEditE (rootWrap es) (.rename p n) with
      | none => exact hes
      | some R =>
        simp only [applyEditE] at hR
        split at hR
        · cases hR
        · exact node_ok hes (fun _ _ => renameE_ok) hR
    | setArgs p as =>
      unfold applyEdit
      cases hR : applyEditE (rootWrap es) (.setArgs p as) with
      | none => exact hes
      | some R =>
        simp only [applyEditE] at hR
        split at hR
        · cases hR
        · exact node_ok hes (fun _ _ => setArgsE_ok hop) hR
    | _ => rw [siteOf_none hs (by intros; simp) (by intros; simp)]; exact hes

example : listOK Legacy.twins = true ∧ OpOK Legacy.twins (.replace [.body 0] [.text [115] (-1)]) :=
  ⟨by decide +kernel, by unfold OpOK; decide⟩

/-- ... lifted to histories (`HistOK`: every op is `OpOK` for the document it meets). -/
theorem edits_preserve_wellformed : ∀ (ops : List EditOp) (es : List Expr),
    listOK es = true → HistOK es ops → listOK (applyEdits es ops) = true := by
  intro ops
  induction ops with
  | nil => intro es hes _; exact hes
  | cons op ops ih =>
    intro es hes h
    exact ih _ (edit_preserves_wellformed es op hes h.1) h.2

example : HistOK Legacy.twins [.delete [.body 2], .insert [] 0 [.text [115] (-1)]] :=
  ⟨trivial, by unfold OpOK; decide, trivial⟩

/-- The hypothesis on `setString` in `OpOK` cannot be dropped: writing the string of
`\a\b` (a command whose single argument is the bare command `\b`) gives `\b` contents. -/
theorem setString_needs_group_argument : ∃ (es : List Expr) (p : Path) (s : Str),
    listOK es = true ∧ listOK (applyEdit es (.setString p s)) = false :=
  ⟨[.cmd [97] [.cmd [98] [] [] 2] [] 0], [.body 0], [115], by decide +kernel, by decide +kernel⟩

example : serL (applyEdit [.cmd [97] [.cmd [98] [] [] 2] [] 0] (.setString [.body 0] [115]))
    = [92, 97, 92, 98, 115] := by decide +kernel

/-- Operations on a node's argument list inside a history.  Whatever the list-level effect
`f` of the operation is (for `TexArgs` it is the effect of the same operation on a plain
Python list, property C18), putting `f` of the current arguments on the node changes the
serialised document exactly in the span of the arguments, which becomes the text of the new
list, and the node at `p` is the same node with the new list. -/
theorem args_op_splice (es : List Expr) (p : Path) (y : Expr) (f : List Expr → List Expr)
    (hp : p ≠ []) (hy : getAtRoot es p = some y) (ha : y.hasArgs = true) :
    ∃ k, offAtRoot es p = some k ∧
      getAtRoot (applyEdit es (.setArgs p (f y.args))) p = some (y.setArgs (f y.args)) ∧
      serL (applyEdit es (.setArgs p (f y.args))) =
        (serL es).take (k + (argsPre y).length) ++
          (serL (f y.args) ++ (serL es).drop (k + (argsPre y).length + (serL y.args).length)) :=
  C14.setArgs_splice es p y (f y.args) hp hy ha

example : ∃ es p y, p ≠ [] ∧ getAtRoot es p = some y ∧ y.hasArgs = true :=
  ⟨[.cmd [120] [.group .brace [.text [97] 3] 2] [] 0], [.body 0], _, by simp, rfl, rfl⟩

/-- The `aop` steps of histories (`ListOp`: append/extend/insert/pop/remove/reverse/clear/slice/
permutation/put-back, with Python's index conventions) are `setArgs` edits: when the list
operation succeeds on the current arguments the step is `.setArgs p l` with `l` its result,
when it raises the document stays as it is (stated for a path `p` that holds a node).  Hence `step_refines`
and `history_refines` cover these steps. -/
theorem list_op_is_setArgs (es : List Expr) (p : Path) (y : Expr) (op : ListOp)
    (hy : getAtRoot es p = some y) :
    (∀ l, op.apply y.args = some l → applyArgsOp es p op = applyEdit es (.setArgs p l)) ∧
    (op.apply y.args = none → applyArgsOp es p op = es) := by
  constructor
  · intro l hl; simp [applyArgsOp, argsOpEdit, hy, hl]
  · intro hl; simp [applyArgsOp, argsOpEdit, hy, hl]

example : serL (applyArgsOp [.cmd [120] [.group .brace [.text [97] 3] 2, .group .bracket [.text [98] 6] 5] [] 0]
    [.body 0] .reverse) = [92, 120, 91, 98, 93, 123, 97, 125] := by decide +kernel

/-- ... and on the serialised text they are the splice that `resolve` computes for that
`setArgs`. -/
theorem list_op_refines (es : List Expr) (p : Path) (op : ListOp) :
    serL (applyArgsOp es p op) = match argsOpEdit es p op with
      | some e => refStep es (serL es) e
      | none => serL es := by
  unfold applyArgsOp
  cases argsOpEdit es p op with
  | none => rfl
  | some e => exact step_refines es e

example : argsOpEdit [.cmd [120] [.group .brace [.text [97] 3] 2] [] 0] [.body 0] (.pop 5) = none := by
  decide

end TexSoup.C15
