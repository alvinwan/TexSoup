import TexSoupProofs.Properties.C02
import TexSoupModel.Nav
/-!
# C12 for documents of the grammar – math regions and math environments

Each of the four regions `$..$`, `$$..$$`, `\(..\)`, `\[..\]` is one `math` node of its kind whose
body is the trees of the enclosed elements (`math_region_is_one_node`), whatever these are –
commands, groups, nested environments, not only leaf tokens; an environment whose name is in
`Tables.mathEnvNames` is one `nenv` node whose body is read in math mode
(`math_environment_is_one_node`, `math_environment_body_mode`). Inside, `[`, `]` and text with
parentheses are leaves that need no partner (`bracket_leaf_in_math`); zero-argument operators
absorb nothing (`C02.zero_arg_operator_absorbs_nothing`); commands are ordinary `cmd` nodes and
are found by a search of the tree (evaluated example at the end).
-/
namespace TexSoup.C12G
open TexSoup TexSoup.Gram

/-- One node per region, body = the enclosed elements. -/
theorem math_region_is_one_node (skip : List Str) (tol : Bool) (m : Mode) (k : MKind) (o c : Tok)
    (b : List Elem) (rest : List Tok) (f : Nat)
    (hwf : WF skip m (win rest) (.math k o b c) = true)
    (hf : 3 * (toks (.math k o b c) ++ rest).length + 1 ≤ f) :
    readExpr f skip tol m (o :: (toksS b ++ c :: rest)) = .ok (.math k (trees b) o.pos, rest) := by
  simpa [toks, tree] using readExpr_complete _ skip tol m rest f hwf hf

/-- What well-formedness of a region asks: opener and closer of the kind, and a body that is
well-formed *in math mode* in which no element starts with the closer. -/
theorem math_region_wf (skip : List Str) (m : Mode) (nx : List Tok) (k : MKind) (o c : Tok) (b : List Elem) :
    WF skip m nx (.math k o b c) =
      (mkindOfBegin o.cat == some k && c.cat == k.tokEnd && WFs [] .math (.mth k) [c] b) := by
  simp [WF]

/-- The body of an environment named in `Tables.mathEnvNames` is read in math mode. -/
theorem math_environment_body_mode (name : Str) (m : Mode)
    (h : memStr name Tables.mathEnvNames = true) : envMode name m = .math := by
  unfold envMode; rw [if_pos h]

/-- One `nenv` node, body = the enclosed elements. -/
theorem math_environment_is_one_node (skip : List Str) (tol : Bool) (m : Mode) (esc bgn : Tok)
    (nm : NameArg) (a2 a3 a4 : List Arg) (b : List Elem) (esc2 en : Tok) (nm2 : NameArg)
    (rest : List Tok) (f : Nat)
    (hwf : WF skip m (win rest) (.env esc bgn nm a2 a3 a4 b esc2 en nm2) = true)
    (hmath : memStr (strip nm.nt.text) Tables.mathEnvNames = true)
    (hf : 3 * (toks (.env esc bgn nm a2 a3 a4 b esc2 en nm2) ++ rest).length + 1 ≤ f) :
    WFs skip .math .env [esc2, en] b = true ∧
    readExpr f skip tol m (toks (.env esc bgn nm a2 a3 a4 b esc2 en nm2) ++ rest) =
      .ok (.nenv (strip nm.nt.text) (treesA .brace a2 ++ (treesA .bracket a3 ++ treesA .brace a4))
        (trees b) esc.pos, rest) := by
  refine ⟨?_, readExpr_complete _ skip tol m rest f hwf hf⟩
  have := (WF_env.1 hwf).2.2.2.2.2.2.2.1
  rwa [math_environment_body_mode _ m hmath] at this

/-- `[` and `]` inside a math region are leaves; they need no partner, in any kind of region. -/
theorem bracket_leaf_in_math (k : MKind) (nx : List Tok) (t : Tok)
    (h : t.cat = .BracketBegin ∨ t.cat = .BracketEnd) :
    WF [] .math nx (.leaf t) = true ∧ startOK (.mth k) (.leaf t) = true := by
  rcases h with h | h <;> cases k <;> simp [WF, leafTok, startOK, firstTok, h, mkindOfBegin, MKind.tokEnd]

private def t (s : Str) (p : Nat) (c : TC) : Tok := ⟨s, p, c⟩
private def sAlpha : Str := [97, 108, 112, 104, 97]
private def sEquation : Str := [101, 113, 117, 97, 116, 105, 111, 110]

/-- `${x}[\alpha \in y$` – a group, an unmatched bracket, a command, a zero-argument operator
followed by text. (`$\alpha[…` would *not* do: the bracket would be taken as the beginning of
an optional argument of `\alpha` – `runOK`.) -/
def exInline : Doc :=
  [.math .dollar (t [36] 0 .MathSwitch)
     [.group (t [123] 1 .GroupBegin) [.leaf (t [120] 2 .Text)] (t [125] 3 .GroupEnd),
      .leaf (t [91] 4 .BracketBegin),
      .cmd (t [92] 5 .Escape) (t sAlpha 6 .CommandName) [] [] [] [],
      .leaf (t [32] 11 .MergedSpacer),
      .cmd (t [92] 12 .Escape) (t [105, 110] 13 .CommandName) [] [] [] [],
      .leaf (t [32, 121] 15 .Text)]
     (t [36] 17 .MathSwitch)]

def srcInline : Str := [36, 123, 120, 125, 91, 92, 97, 108, 112, 104, 97, 32, 92, 105, 110, 32, 121, 36]

theorem tokInline : tokenize srcInline = some (toksD exInline) := by decide +kernel
theorem wfInline : WFD Tables.skipEnvNames exInline = true := by decide +kernel

example : tokenize srcInline = some (toksD exInline) := tokInline
example : WFD Tables.skipEnvNames exInline = true := wfInline
example : parse false [] srcInline =
    .ok [.math .dollar
      [.group .brace [.text [120] 2] 1, .text [91] 4, .cmd sAlpha [] [] 5, .text [32] 11,
       .cmd [105, 110] [] [] 12, .text [32, 121] 15] 0] :=
  C02.parse_complete false [] srcInline exInline tokInline wfInline

/-- the command inside is found by a search of the tree -/
example : findAllRoot (.name sAlpha) (treeD exInline) = [.cmd sAlpha [] [] 5] := by decide +kernel

/-- `\[x\]`, `\(x\)`, `$$x$$` -/
example : WFD [] [.math .displaymath (t [92, 91] 0 .DisplayMathGroupBegin) [.leaf (t [120] 2 .Text)]
      (t [92, 93] 3 .DisplayMathGroupEnd),
    .math .math (t [92, 40] 5 .MathGroupBegin) [.leaf (t [120] 7 .Text)] (t [92, 41] 8 .MathGroupEnd),
    .math .ddollar (t [36, 36] 10 .DisplayMathSwitch) [.leaf (t [120] 12 .Text)]
      (t [36, 36] 13 .DisplayMathSwitch)] = true := by decide +kernel

/-- `\begin{equation}\alpha\end{equation}` – and `\item` is not allowed in its body. -/
def exEq (body : List Elem) : Doc :=
  [.env (t [92] 0 .Escape) (t sBegin 1 .CommandName)
     ⟨none, t [123] 6 .GroupBegin, t sEquation 7 .Text, t [125] 15 .GroupEnd⟩ [] [] [] body
     (t [92] 22 .Escape) (t sEnd 23 .CommandName)
     ⟨none, t [123] 26 .GroupBegin, t sEquation 27 .Text, t [125] 35 .GroupEnd⟩]

example : WFD Tables.skipEnvNames
    (exEq [.cmd (t [92] 16 .Escape) (t sAlpha 17 .CommandName) [] [] [] []]) = true := by decide +kernel
example : treeD (exEq [.cmd (t [92] 16 .Escape) (t sAlpha 17 .CommandName) [] [] [] []]) =
    [.nenv sEquation [] [.cmd sAlpha [] [] 16] 0] := by decide +kernel
example : WFD Tables.skipEnvNames
    (exEq [.item (t [92] 16 .Escape) (t sItem 17 .CommandName) [] [] [] [] []]) = false := by decide +kernel

end TexSoup.C12G
