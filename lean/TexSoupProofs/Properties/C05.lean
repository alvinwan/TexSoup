import TexSoupProofs.EditLemmasMain
import TexSoupProofs.EditLemmasLegacy
import TexSoupModel.ArgsEdit
/-!
# C05 – structural edits are local splices of the serialised document

"Deleting a node, replacing it with new nodes or text, removing a child, or
inserting/appending content changes exactly the targeted place of the serialised document:
the result equals the original text with that node's own span removed or substituted, or
with the new text spliced in at the requested index, and every other character unchanged.
This holds for nodes in bodies, items, groups and arguments, and also when the document
contains other nodes whose text is identical to the target's."

Vocabulary (definitions in `TexSoupProofs/EditLemmas*.lean`):
* `offAtRoot es p : Option Nat` – number of characters of `serL es` before the node at `p`
  (`offAt e p` inside a node, `insOff c i` / `insOffRoot es c i` for insertion point `i` of a
  container: after its opening part, its arguments and its first `i` body elements);
* `parentOK es p` – the list holding the node at `p` belongs to something that supports
  contents (`TexExpr.remove`/`insert` raise `TypeError` otherwise: a command that is not
  `\item`, e.g. a renamed `\item`, cannot lose or replace a child);
* `siteOf es op = some ⟨q, st, d, ns⟩` – the edit replaces `d` elements at place `st` of the
  node at `q` by `ns`; `untouched`/`reindex` name the paths that survive and where they go.

All statements quantify over *paths*, i.e. over occurrences: a textual twin of the target is
a different path and is covered by `edit_preserves_others`.
-/
namespace TexSoup.C05
open TexSoup TexSoup.Edit

/-- `node.delete()` / `parent.remove(node)`: the serialised document loses exactly the span
of the node at `p` (offset `k`, length `(ser x).length`); nothing else changes. -/
theorem delete_splice (es : List Expr) (p : Path) (x : Expr)
    (hx : getAtRoot es p = some x) (hok : parentOK es p = true) :
    ∃ k, offAtRoot es p = some k ∧
      serL (applyEdit es (.delete p)) = (serL es).take k ++ (serL es).drop (k + (ser x).length) := by
  obtain ⟨q, st, _, rfl, _⟩ := parentOK_split hok
  obtain ⟨k, hk, h⟩ := remove_core [] hx (siteOf_delete hx hok)
  exact ⟨k, hk, by simpa using h⟩

example : ∃ es p x, getAtRoot es p = some x ∧ parentOK es p = true :=
  ⟨Legacy.twins, [.body 2], _, rfl, by decide +kernel⟩

/-- `node.replace_with(*ns)` / `parent.replace(node, *ns)`: the span of the node at `p` is
substituted by the text of the new material; nothing else changes. -/
theorem replace_splice (es : List Expr) (p : Path) (x : Expr) (ns : List Expr)
    (hx : getAtRoot es p = some x) (hok : parentOK es p = true) :
    ∃ k, offAtRoot es p = some k ∧
      serL (applyEdit es (.replace p ns)) =
        (serL es).take k ++ (serL ns ++ (serL es).drop (k + (ser x).length)) := by
  obtain ⟨q, st, _, rfl, _⟩ := parentOK_split hok
  exact remove_core ns hx (siteOf_replace ns hx hok)

example : ∃ es p x, getAtRoot es p = some x ∧ parentOK es p = true :=
  ⟨Legacy.twins, [.body 0], _, rfl, by decide +kernel⟩

/-- If the target does not exist, or its holder refuses edits (Python raises), `delete` and
`replace` leave the document as it is. -/
theorem remove_fails (es : List Expr) (p : Path) (ns : List Expr)
    (h : getAtRoot es p = none ∨ parentOK es p = false) :
    applyEdit es (.delete p) = es ∧ applyEdit es (.replace p ns) = es := by
  have hs : siteOf es (.delete p) = none ∧ siteOf es (.replace p ns) = none := by
    simp only [siteOf]
    cases hsl : splitLast p with
    | none => exact ⟨rfl, rfl⟩
    | some qs => rcases h with h | h <;> simp [h]
  exact ⟨siteOf_none hs.1 (by intros; simp) (by intros; simp),
    siteOf_none hs.2 (by intros; simp) (by intros; simp)⟩

example : ∃ es p, getAtRoot es p = none ∨ parentOK es p = false :=
  ⟨Legacy.twins, [.body 7], Or.inl rfl⟩

/-- `container.insert(i, *ns)` with `i ≤ len(contents)`: the text of the new material is
spliced in at the insertion point `i` of the container at `c` (the root for `c = []`);
nothing is removed. -/
theorem insert_splice (es : List Expr) (c : Path) (y : Expr) (i : Nat) (ns : List Expr)
    (hc : getAtRoot es c = some y) (hsc : y.supportsContents = true) (hi : i ≤ y.body.length) :
    ∃ k, insOffRoot es c i = some k ∧
      serL (applyEdit es (.insert c i ns)) = (serL es).take k ++ (serL ns ++ (serL es).drop k) := by
  apply insert_core i ns hc hsc
  rw [siteOf_insert i ns hc hsc, Nat.min_eq_left hi]

example : ∃ es c y i, getAtRoot es c = some y ∧ y.supportsContents = true ∧ i ≤ y.body.length :=
  ⟨Legacy.twins, [], _, 3, rfl, rfl, by decide +kernel⟩

/-- An index beyond the end behaves like the end (`list.insert` clamps): the same result as
`append`. -/
theorem insert_beyond (es : List Expr) (c : Path) (y : Expr) (i : Nat) (ns : List Expr)
    (hc : getAtRoot es c = some y) (hi : y.body.length ≤ i) :
    applyEdit es (.insert c i ns) = applyEdit es (.append c ns) := by
  have : applyEditE (rootWrap es) (.insert c i ns) = applyEditE (rootWrap es) (.append c ns) := by
    simp only [applyEditE]
    apply updAt_congr hc
    have : insertAt i ns y.body = y.body ++ ns := by
      rw [insertAt_min, Nat.min_eq_right hi, insertAt]; simp
    rw [this]
  simp [applyEdit, this]

example : ∃ es c y i, getAtRoot es c = some y ∧ y.body.length ≤ i :=
  ⟨Legacy.twins, [], _, 9, rfl, by decide +kernel⟩

/-- `container.insert(i, *ns)` for ANY integer index, Python's convention: the index is
resolved once like `list.insert` does (`pyInsertIndex`: a negative `i` counts from the end,
everything is clamped into `0..len`), and the text of all new pieces is spliced in, in order,
at the insertion point of that resolved index (`l[i:i] = pieces`); nothing is removed. -/
theorem insert_splice_py (es : List Expr) (c : Path) (y : Expr) (i : Int) (ns : List Expr)
    (hc : getAtRoot es c = some y) (hsc : y.supportsContents = true) :
    insertEdit es c i ns = some (.insert c (pyInsertIndex y.body.length i) ns) ∧
    pyInsertIndex y.body.length i ≤ y.body.length ∧
    ∃ k, insOffRoot es c (pyInsertIndex y.body.length i) = some k ∧
      serL (applyEdit es (.insert c (pyInsertIndex y.body.length i) ns)) =
        (serL es).take k ++ (serL ns ++ (serL es).drop k) := by
  have hle : pyInsertIndex y.body.length i ≤ y.body.length := by
    unfold pyInsertIndex pyClampInsert
    split <;> omega
  exact ⟨by simp [insertEdit, hc], hle, insert_splice es c y _ ns hc hsc hle⟩

example : pyInsertIndex 2 (-1) = 1 ∧ pyInsertIndex 2 (-99) = 0 ∧ pyInsertIndex 2 99 = 2 ∧
    serL (applyEdit Legacy.twins (.insert [] (pyInsertIndex 4 (-1)) [.text [112] (-1), .text [113] (-1)]))
      = [92, 120, 32, 121, 92, 120, 112, 113, 32, 122] := by decide +kernel

/-- `container.append(*ns)`: the new text is spliced in after the last element of the
container's contents (before its closing part). -/
theorem append_splice (es : List Expr) (c : Path) (y : Expr) (ns : List Expr)
    (hc : getAtRoot es c = some y) (hsc : y.supportsContents = true) :
    ∃ k, insOffRoot es c y.body.length = some k ∧
      serL (applyEdit es (.append c ns)) = (serL es).take k ++ (serL ns ++ (serL es).drop k) :=
  insert_core y.body.length ns hc hsc (siteOf_append ns hc hsc)

example : ∃ es c y, getAtRoot es c = some y ∧ y.supportsContents = true :=
  ⟨Legacy.twins, [], _, rfl, rfl⟩

/-- A container that does not exist or does not support contents (a command other than
`\item`, a text leaf): `insert`/`append` raise and the document stays as it is. -/
theorem insert_fails (es : List Expr) (c : Path) (i : Nat) (ns : List Expr)
    (h : containerOK es c = false) :
    applyEdit es (.insert c i ns) = es ∧ applyEdit es (.append c ns) = es := by
  have hs : siteOf es (.insert c i ns) = none ∧ siteOf es (.append c ns) = none := by
    simp only [siteOf, containerOK] at h ⊢
    cases hc : getAtRoot es c with
    | none => exact ⟨rfl, rfl⟩
    | some y => simp [hc] at h; simp [h]
  exact ⟨siteOf_none hs.1 (by intros; simp) (by intros; simp),
    siteOf_none hs.2 (by intros; simp) (by intros; simp)⟩

example : ∃ es c, containerOK es c = false := ⟨Legacy.twins, [.body 0], by decide +kernel⟩

/-- The site of each structural edit, spelled out (this is what `edit_preserves_others`
refers to): the parent and the place of the target for `delete`/`replace` (one element
removed), the container and the (clamped) index for `insert`/`append` (nothing removed). -/
theorem sites (es : List Expr) (q : Path) (st : Step) (x y : Expr) (c : Path) (i : Nat)
    (ns : List Expr)
    (hx : getAtRoot es (q ++ [st]) = some x) (hok : parentOK es (q ++ [st]) = true)
    (hc : getAtRoot es c = some y) (hsc : y.supportsContents = true) :
    siteOf es (.delete (q ++ [st])) = some ⟨q, st, 1, []⟩ ∧
    siteOf es (.replace (q ++ [st]) ns) = some ⟨q, st, 1, ns⟩ ∧
    siteOf es (.insert c i ns) = some ⟨c, .body (min i y.body.length), 0, ns⟩ ∧
    siteOf es (.append c ns) = some ⟨c, .body y.body.length, 0, ns⟩ :=
  ⟨siteOf_delete hx hok, siteOf_replace ns hx hok, siteOf_insert i ns hc hsc,
    siteOf_append ns hc hsc⟩

example : ∃ es q st x, getAtRoot es (q ++ [st]) = some x ∧ parentOK es (q ++ [st]) = true :=
  ⟨Legacy.twins, [], .body 2, _, rfl, by decide +kernel⟩

/-- Nodes that are not targeted are never altered, duplicated or lost: every path `r` that is
neither the edited node's parent chain nor inside a removed element (`untouched`) still
leads to the same node, after the explicit re-indexing `reindex` (siblings behind the edit
point in the same holder move by `inserted − removed`; every other path stays). In
particular a textual twin of the target, being at another path, is untouched. -/
theorem edit_preserves_others (es : List Expr) (op : EditOp) (σ : Site) (r : Path)
    (h : siteOf es op = some σ) (hr : untouched σ.q σ.st σ.d r = true) :
    getAtRoot (applyEdit es op) (reindex σ.q σ.st σ.d σ.ns.length r) = getAtRoot es r := by
  obtain ⟨e, l, k, es', he, hl, hd, _, hu, rfl, _⟩ := site_splice h
  exact getAt_holderSplice he hl hd hu hr

example : ∃ es op σ r, siteOf es op = some σ ∧ untouched σ.q σ.st σ.d r = true :=
  ⟨Legacy.twins, .delete [.body 2], ⟨[], .body 2, 1, []⟩, [.body 3], rfl, by decide +kernel⟩

/-- Inserted material is found, as given, at the edit point. -/
theorem edit_new_material (es : List Expr) (op : EditOp) (σ : Site) (m : Nat)
    (h : siteOf es op = some σ) (hm : m < σ.ns.length) :
    getAtRoot (applyEdit es op) (σ.q ++ [σ.st.withIdx (σ.st.idx + m)]) = σ.ns[m]? := by
  obtain ⟨e, l, k, es', he, hl, hd, _, hu, rfl, _⟩ := site_splice h
  exact getAt_holderSplice_new he hl hd hu m hm

example : ∃ es op σ m, siteOf es op = some σ ∧ m < σ.ns.length :=
  ⟨Legacy.twins, .insert [] 1 [.text [115] (-1)], ⟨[], .body 1, 0, [.text [115] (-1)]⟩, 0,
    rfl, by decide +kernel⟩

/-- Twins: in `\x y\x z` deleting the *second* `\x` removes characters 4–5 and nothing else,
and the first `\x` (same text, other path) is still there. -/
theorem twins_example :
    serL Legacy.twins = [92, 120, 32, 121, 92, 120, 32, 122] ∧
    offAtRoot Legacy.twins [.body 2] = some 4 ∧
    serL (applyEdit Legacy.twins (.delete [.body 2])) = [92, 120, 32, 121, 32, 122] ∧
    getAtRoot (applyEdit Legacy.twins (.delete [.body 2])) [.body 0] = getAtRoot Legacy.twins [.body 0] ∧
    getAtRoot (applyEdit Legacy.twins (.delete [.body 2])) [.body 2] = getAtRoot Legacy.twins [.body 3] := by
  refine ⟨by decide +kernel, by decide +kernel, by decide +kernel, rfl, rfl⟩

example : getAtRoot Legacy.twins [.body 2] = some (.cmd [120] [] [] 4) := rfl

namespace Legacy
open TexSoup.Edit.Legacy

/-- The lookup before the repair (first element of the holder whose *text* equals the
target's) was not local: deleting the second `\x` of `\x y\x z` removed the first one. -/
theorem delete_not_local : ∃ (es : List Expr) (p : Path) (x : Expr) (k : Nat),
    getAtRoot es p = some x ∧ parentOK es p = true ∧ offAtRoot es p = some k ∧
    serL (applyDelete es p) ≠ (serL es).take k ++ (serL es).drop (k + (ser x).length) :=
  ⟨twins, [.body 2], .cmd [120] [] [] 4, 4, rfl, by decide +kernel, by decide +kernel, by decide +kernel⟩

example : serL (applyDelete twins [.body 2]) = [32, 121, 92, 120, 32, 122] := by decide +kernel

end Legacy
end TexSoup.C05
