import TexSoupProofs.TokLemmas.FirstMatch
import TexSoupModel.Read
/-!
# C17 – The result depends only on the source text; parses are isolated

What a functional model can carry: (1) the only thing `tex.read` does with non-string input
is `''.join(itertools.chain(*tex))`, which is concatenation of the chunks; (2) the one place
where the code iterates over a *set* (`PUNCTUATION_COMMANDS`, whose iteration order depends
on the interpreter's hash seed) gives the same answer for every order, because the table is
prefix-free; (3) `parse` is a function of the source and the options. That the implementation
agrees with this function across input forms, hash seeds and interleavings is translation
validation, carried by the correspondence and the oracle of the check.
-/
namespace TexSoup.C17

/-- `''.join(itertools.chain(*chunks))`: iterate every chunk character by character, join. -/
def joinChunks (chunks : List Str) : Str := ((chunks.flatMap fun c => c.map fun ch => [ch]).flatten)

/-- (1) chunked input is the concatenation of the chunks, for every chunking. -/
theorem flatten_chunks (chunks : List Str) : joinChunks chunks = chunks.flatten := by
  unfold joinChunks
  induction chunks with
  | nil => rfl
  | cons c cs ih =>
    simp only [List.flatMap_cons, List.flatten_append, List.flatten_cons, ih]
    congr 1
    induction c with
    | nil => rfl
    | cons a c ihc => simp [ihc]

/-- every split of a source into chunks parses to the same result -/
theorem chunking_irrelevant (tol : Bool) (skip : List Str) (s : Str) (chunks : List Str)
    (h : chunks.flatten = s) : parse tol skip (joinChunks chunks) = parse tol skip s := by
  rw [flatten_chunks, h]

/-- (2) the sizing-command table is prefix-free ... -/
theorem table_prefixFree : PrefixFree Tables.punctuationCommands := punctuationCommands_prefixFree

/-- ... so the command found does not depend on the order in which the set is iterated. -/
theorem iteration_order_irrelevant (tbl' : List Str) (hp : tbl'.Perm Tables.punctuationCommands)
    (rest : Str) : firstMatch tbl' rest = firstMatch Tables.punctuationCommands rest :=
  firstMatch_perm punctuationCommands_prefixFree hp rest

/-- (3) same source and options, same result (the model is a function; stated for the record). -/
theorem deterministic (tol : Bool) (skip : List Str) (s s' : Str) (h : s = s') :
    parse tol skip s = parse tol skip s' := by rw [h]

/-! Non-vacuity: a three-chunk split; the reversed table; a table that is *not* prefix-free
(`big` / `bigg`) really is order dependent; and the old table (with `left.|`) was not
prefix-free. -/
example : joinChunks [[92, 97], [], [123, 125]] = [92, 97, 123, 125] := by decide +kernel
example (rest : Str) :
    firstMatch Tables.punctuationCommands.reverse rest =
      firstMatch Tables.punctuationCommands rest :=
  firstMatch_perm punctuationCommands_prefixFree (List.reverse_perm _) rest
example : firstMatch [[98, 105, 103], [98, 105, 103, 103]] [98, 105, 103, 103, 40] ≠
    firstMatch [[98, 105, 103, 103], [98, 105, 103]] [98, 105, 103, 103, 40] := by decide +kernel
example : ¬ PrefixFree ([108, 101, 102, 116, 46] :: [108, 101, 102, 116, 46, 124] :: []) := by
  rw [prefixFree_iff_check]
  decide +kernel

end TexSoup.C17
