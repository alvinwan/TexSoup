import TexSoupProofs.Reader.Balance
import TexSoupProofs.Reader.EnvBalance
import TexSoupProofs.Reader.TolerantTotal
import TexSoupProofs.Properties.C06
import TexSoupProofs.Properties.TokFacts
import TexSoupProofs.Properties.TestVectors
/-!
# C07 (b) – A lost closer: strict parsing fails, tolerant parsing succeeds

For a well-formed document without math, verbatim or list regions that has lost one closing
brace or one `\end{name}`, strict parsing reports an error and tolerant parsing succeeds.

At the level of the reader model "has lost a closer" is a counting statement about the token
list: more `{` than `}` tokens (`closes ts < opens ts`), or more `\begin` than `\end`
(`envCloses ts < envOpens ts`). The statements hold under token-level conditions that say
which documents are meant (definitions in `Reader/Balance.lean`, `Reader/EnvBalance.lean`,
`Reader/TolerantTotal.lean`; each has a Boolean checker with a soundness lemma):

* `WellNamed skip ts` – after every escape comes a name token (neither `{` nor an escape), and
  `\begin` is followed by an optional spacer, `{`, one leaf token, `}`, the leaf not spelling a
  verbatim-like environment of `skip` ("no verbatim region is entered");
* `EnvHyp skip ts` – `WellNamed`, and no name is a special command (`\newcommand` …), none has a
  fixed positive number of mandatory arguments, `\end` is followed by `{` (otherwise `\begin`
  can be consumed as a plain command: `\newcommand{\x}{\begin{a}}`, `\textbf\begin{a}`);
* `TolHyp skip ts` – no math opener, no `\item`, and the `\begin{name}` part of `WellNamed`.
-/
namespace TexSoup.C07b

/-- Every strict reader function consumes at least as many `}` as `{`; a brace group read after
its opener consumes one more. -/
theorem reader_balanced (skip0 : List Str) (f : Nat) : BalAt skip0 f := balAt skip0 f

/-- Every strict reader function consumes at least as many `\end` as `\begin`; an environment
read after its `\begin{name}` consumes one more. -/
theorem reader_env_balanced (skip0 : List Str) (f : Nat) : EnvBalAt skip0 f := envBalAt skip0 f

/-- Strict success implies that no brace is left open. -/
theorem strict_success_braces (skip : List Str) (s : Str) (ts : List Tok) (es : List Expr)
    (ht : tokenize s = some ts) (hy : WellNamed (Tables.skipEnvNames ++ skip) ts)
    (h : parse false skip s = .ok es) : opens ts ≤ closes ts :=
  parse_balanced skip s ts es ht hy h

/-- Strict success implies that no environment is left open. -/
theorem strict_success_envs (skip : List Str) (s : Str) (ts : List Tok) (es : List Expr)
    (ht : tokenize s = some ts) (hy : EnvHyp (Tables.skipEnvNames ++ skip) ts)
    (h : parse false skip s = .ok es) : envOpens ts ≤ envCloses ts :=
  parse_env_balanced skip s ts es ht hy h

/-- More `{` than `}`: strict parsing does not succeed. -/
theorem lost_brace_strict_fails (skip : List Str) (s : Str) (ts : List Tok)
    (ht : tokenize s = some ts) (hy : WellNamed (Tables.skipEnvNames ++ skip) ts)
    (hlost : closes ts < opens ts) : ∀ es, parse false skip s ≠ .ok es :=
  fun es h => Nat.not_le.2 hlost (strict_success_braces skip s ts es ht hy h)

/-- … and what it reports is one of the three diagnostic errors. -/
theorem lost_brace_strict_error (skip : List Str) (s : Str) (ts : List Tok)
    (ht : tokenize s = some ts) (hy : WellNamed (Tables.skipEnvNames ++ skip) ts)
    (hlost : closes ts < opens ts) :
    parse false skip s = .error .eof ∨ parse false skip s = .error .type ∨
    parse false skip s = .error .assertion :=
  C06.error_of_fails (lost_brace_strict_fails skip s ts ht hy hlost)

/-- Tolerant parsing succeeds on every document without math, `\item`, verbatim-like
environments and name-less `\begin` – whatever closers it has lost. -/
theorem tolerant_succeeds (skip : List Str) (s : Str) (ts : List Tok)
    (ht : tokenize s = some ts) (hy : TolHyp (Tables.skipEnvNames ++ skip) ts) :
    ∃ es, parse true skip s = .ok es :=
  parse_tolerant_succeeds skip s ts ht hy

/-- The same for the tolerant reader functions of `TolOkAt`: each succeeds, runs out of fuel, or
reports `Err.internal` (`readExpr` on an empty input). -/
theorem reader_tolerant_ok (skip0 : List Str) (f : Nat) : TolOkAt skip0 f := tolOkAt skip0 f

/-- A document without math and `\item`, whatever `}` it has lost: tolerant parsing succeeds. -/
theorem lost_brace_tolerant_succeeds (skip : List Str) (s : Str) (ts : List Tok)
    (ht : tokenize s = some ts) (hm : ∀ t ∈ ts, mkindOfBegin t.cat = none) (hi : NoItem ts)
    (hy : WellNamed (Tables.skipEnvNames ++ skip) ts) :
    ∃ es, parse true skip s = .ok es :=
  parse_tolerant_succeeds skip s ts ht (TolHyp.of_wellNamed hm hi hy)

/-- More `\begin` than `\end`: strict parsing does not succeed. -/
theorem lost_end_strict_fails (skip : List Str) (s : Str) (ts : List Tok)
    (ht : tokenize s = some ts) (hy : EnvHyp (Tables.skipEnvNames ++ skip) ts)
    (hlost : envCloses ts < envOpens ts) : ∀ es, parse false skip s ≠ .ok es :=
  fun es h => Nat.not_le.2 hlost (strict_success_envs skip s ts es ht hy h)

/-- … and what it reports is one of the three diagnostic errors. -/
theorem lost_end_strict_error (skip : List Str) (s : Str) (ts : List Tok)
    (ht : tokenize s = some ts) (hy : EnvHyp (Tables.skipEnvNames ++ skip) ts)
    (hlost : envCloses ts < envOpens ts) :
    parse false skip s = .error .eof ∨ parse false skip s = .error .type ∨
    parse false skip s = .error .assertion :=
  C06.error_of_fails (lost_end_strict_fails skip s ts ht hy hlost)

/-- A document without math and `\item`, whatever `\end` it has lost: tolerant parsing
succeeds. -/
theorem lost_end_tolerant_succeeds (skip : List Str) (s : Str) (ts : List Tok)
    (ht : tokenize s = some ts) (hm : ∀ t ∈ ts, mkindOfBegin t.cat = none) (hi : NoItem ts)
    (hy : EnvHyp (Tables.skipEnvNames ++ skip) ts) :
    ∃ es, parse true skip s = .ok es :=
  parse_tolerant_succeeds skip s ts ht (TolHyp.of_wellNamed hm hi hy.wellNamed)

/-- C07 (b) in one statement: a document (no math, no `\item`, `EnvHyp`) that has lost a `}` or
an `\end` fails strictly with a diagnostic error and parses tolerantly. -/
theorem lost_closer (skip : List Str) (s : Str) (ts : List Tok) (ht : tokenize s = some ts)
    (hm : ∀ t ∈ ts, mkindOfBegin t.cat = none) (hi : NoItem ts)
    (hy : EnvHyp (Tables.skipEnvNames ++ skip) ts)
    (hlost : closes ts < opens ts ∨ envCloses ts < envOpens ts) :
    (parse false skip s = .error .eof ∨ parse false skip s = .error .type ∨
      parse false skip s = .error .assertion) ∧ ∃ es, parse true skip s = .ok es := by
  refine ⟨?_, lost_end_tolerant_succeeds skip s ts ht hm hi hy⟩
  rcases hlost with h | h
  · exact lost_brace_strict_error skip s ts ht hy.wellNamed h
  · exact lost_end_strict_error skip s ts ht hy h

/-- In the token list of a string without ignored characters the token after an escape is a
`CommandName`/`PunctuationCommandName` token – never `{` or another escape. So of `WellNamed`
only the `\begin{name}` part (`BeginNamed`) is a condition on the document. -/
theorem name_tokens (s : Str) (ts : List Tok) (hs : ∀ c ∈ s, isIgnored (catOf c) = false)
    (ht : tokenize s = some ts) :
    EscAfter (fun n _ => n.cat ≠ TC.GroupBegin ∧ n.cat ≠ TC.Escape) ts := by
  intro pre esc n r he hc
  rcases after_escape hs ht pre esc (n :: r) he hc with h0 | ⟨u, post', hu, hcat, _, _⟩
  · cases h0
  · simp only [List.cons.injEq] at hu
    obtain ⟨rfl, _⟩ := hu
    rcases hcat with h | h <;> rw [h] <;> exact ⟨by decide, by decide⟩

theorem wellNamed_of_tokens (skip0 : List Str) (s : Str) (ts : List Tok)
    (hs : ∀ c ∈ s, isIgnored (catOf c) = false) (ht : tokenize s = some ts)
    (hb : BeginNamed skip0 ts) : WellNamed skip0 ts :=
  WellNamed.of_parts (name_tokens s ts hs ht) hb

/-- `{a` -/
def ex1 : Str := [123, 97]
/-- `\x{a` -/
def ex2 : Str := [92, 120, 123, 97]
/-- `\begin{a}{b\end{a}` – the `}` of `{b` is lost -/
def ex3 : Str := [92, 98, 101, 103, 105, 110, 123, 97, 125, 123, 98, 92, 101, 110, 100, 123, 97, 125]
/-- `\begin{a}b` – the `\end{a}` is lost -/
def ex4 : Str := [92, 98, 101, 103, 105, 110, 123, 97, 125, 98]

example : parse false [] ex1 = .error .type := Vec.open_brace_strict
example : parse true [] ex1 = .ok [.group .brace [.text [97] 1] 0] := Vec.open_brace_tolerant
example : parse false [] ex2 = .error .type := by decide +kernel
example : parse true [] ex2 = .ok [.cmd [120] [.group .brace [.text [97] 3] 2] [] 0] := by decide +kernel

/-- The hypotheses of `lost_closer` for a concrete document, from the Boolean checkers evaluated on
its tokens; `q` is the count that shows the loss. -/
theorem hyps_of_checks {skip0 : List Str} {s : Str} {q : List Tok → Prop} [DecidablePred q]
    (h : (tokenize s).any (fun ts => tolHypB skip0 ts && envHypB skip0 ts && decide (q ts)) = true) :
    ∃ ts, tokenize s = some ts ∧ (∀ t ∈ ts, mkindOfBegin t.cat = none) ∧ NoItem ts ∧
      EnvHyp skip0 ts ∧ q ts := by
  obtain ⟨ts, ht, h⟩ := (Option.any_eq_true ..).1 h
  simp only [Bool.and_eq_true, decide_eq_true_eq] at h
  have hy := tolHypB_sound h.1.1
  exact ⟨ts, ht, hy.math, hy.noItem, envHypB_sound h.1.2, h.2⟩

/-- Everything the examples say of `ex3`, in one statement: within one declaration the kernel
evaluates the tokenizer on `ex3` once. -/
theorem ex3_runs : parse false [] ex3 = .error .type ∧ isOkB (parse true [] ex3) = true ∧
    (tokenize ex3).any (fun ts => tolHypB (Tables.skipEnvNames ++ []) ts &&
      envHypB (Tables.skipEnvNames ++ []) ts && decide (closes ts < opens ts)) = true := by
  decide +kernel

example : parse false [] ex3 = .error .type := ex3_runs.1
example : ∃ es, parse true [] ex3 = .ok es := isOkB_sound ex3_runs.2.1
/-- The hypotheses of `lost_closer` hold for `ex3` (lost `}`: 3 openers, 2 closers). -/
example : ∃ ts, tokenize ex3 = some ts ∧ (∀ t ∈ ts, mkindOfBegin t.cat = none) ∧ NoItem ts ∧
    EnvHyp (Tables.skipEnvNames ++ []) ts ∧ closes ts < opens ts :=
  hyps_of_checks ex3_runs.2.2

/-- The same for `ex4`. -/
theorem ex4_runs : parse false [] ex4 = .error .eof ∧
    parse true [] ex4 = .ok [.nenv [97] [] [.text [98] 9] 0] ∧
    (tokenize ex4).any (fun ts => tolHypB (Tables.skipEnvNames ++ []) ts &&
      envHypB (Tables.skipEnvNames ++ []) ts && decide (envCloses ts < envOpens ts)) = true := by
  decide +kernel

example : parse false [] ex4 = .error .eof := ex4_runs.1
example : parse true [] ex4 = .ok [.nenv [97] [] [.text [98] 9] 0] := ex4_runs.2.1
/-- The hypotheses of `lost_closer` hold for `ex4` (lost `\end`: 1 `\begin`, 0 `\end`). -/
example : ∃ ts, tokenize ex4 = some ts ∧ (∀ t ∈ ts, mkindOfBegin t.cat = none) ∧ NoItem ts ∧
    EnvHyp (Tables.skipEnvNames ++ []) ts ∧ envCloses ts < envOpens ts :=
  hyps_of_checks ex4_runs.2.2

/-- The conditions cannot be dropped: inside a verbatim environment an unmatched `{` is fine
(`\begin{verbatim}x{\end{verbatim}` parses strictly) … -/
example : ∃ es, parse false [] [92, 98, 101, 103, 105, 110, 123, 118, 101, 114, 98, 97, 116, 105, 109,
    125, 120, 123, 92, 101, 110, 100, 123, 118, 101, 114, 98, 97, 116, 105, 109, 125] = .ok es :=
  isOkB_sound (by decide +kernel)
/-- … and in special mode `\begin` is a plain command (`\newcommand{\x}{\begin{a}}` parses
strictly). -/
example : ∃ es, parse false [] [92, 110, 101, 119, 99, 111, 109, 109, 97, 110, 100, 123, 92, 120, 125,
    123, 92, 98, 101, 103, 105, 110, 123, 97, 125, 125] = .ok es :=
  isOkB_sound (by decide +kernel)

end TexSoup.C07b
