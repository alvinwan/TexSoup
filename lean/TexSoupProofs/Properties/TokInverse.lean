import TexSoupProofs.TokLemmas.InverseConv
import TexSoupProofs.TokLemmas.Shaped
/-!
# The tokenizer inverse

A token list that is *separated* – every token satisfies a local, syntactic condition `TokOK`
relative to the character before it and the text after it – tokenizes back to itself:
`tokenize (flat ts) = some ts` (up to recomputing positions).  Conversely the output of the
tokenizer on a string without ignored characters is separated, so `Separated` characterises
tokenizer outputs exactly.

The definitions (`TokOK`, `Separated`, `reposition`, `Positioned`), the local correctness theorem
`tokOK_pass` and the corollaries about neighbouring tokens are in
`TexSoupProofs/TokLemmas/Inverse{First,OK,Conv}.lean`.
-/
namespace TexSoup

/-- The seventeen token categories the tokenizer can emit. -/
def liveCats : List TC :=
  [.Escape, .GroupBegin, .GroupEnd, .BracketBegin, .BracketEnd, .MathSwitch, .DisplayMathSwitch,
   .MathGroupBegin, .MathGroupEnd, .DisplayMathGroupBegin, .DisplayMathGroupEnd, .EscapedComment,
   .Comment, .MergedSpacer, .CommandName, .PunctuationCommandName, .Text]

/-- Every token of every tokenizer output (no assumption on the input) has one of the live
categories: `LineBreak` (dead code – `\\` is claimed by `escaped_symbols` first),
`SizeCommand`, `Spacer`, `ParenBegin`, `ParenEnd` never occur. -/
theorem tokens_live {s : Str} {ts : List Tok} (h : tokenize s = some ts) :
    ∀ t ∈ ts, t.cat ∈ liveCats := by
  intro t ht
  have hl : liveCat t.cat = true :=
    tokLoop_forall (P := fun t => liveCat t.cat = true) (fun _ _ _ _ hp => pass_live hp) _ _ _ h t ht
  revert hl
  cases t.cat <;> decide

/-- **Tokenizer inverse.**  A separated token list tokenizes back to itself, with positions
recomputed as running offsets. -/
theorem tokenize_inverse {ts : List Tok} (h : Separated none ts) :
    tokenize (flat ts) = some (reposition 0 ts) :=
  tokLoop_inverse h _ none 0 (by simp [tokFuel])

/-- If the positions already are the running offsets, the list tokenizes back to itself
exactly. -/
theorem tokenize_inverse_positioned {ts : List Tok} (h : Separated none ts)
    (hp : Positioned 0 ts) : tokenize (flat ts) = some ts := by
  rw [tokenize_inverse h, reposition_of_positioned hp]

/-- `\bf{a b} $x$%c` as a token list: separated and positioned. -/
example :
    Separated none
      [⟨[92], 0, .Escape⟩, ⟨[98, 102], 1, .CommandName⟩, ⟨[123], 3, .GroupBegin⟩,
       ⟨[97, 32, 98], 4, .Text⟩, ⟨[125], 7, .GroupEnd⟩, ⟨[32], 8, .MergedSpacer⟩,
       ⟨[36], 9, .MathSwitch⟩, ⟨[120], 10, .Text⟩, ⟨[36], 11, .MathSwitch⟩,
       ⟨[37, 99], 12, .Comment⟩] ∧
    Positioned 0
      [⟨[92], 0, .Escape⟩, ⟨[98, 102], 1, .CommandName⟩, ⟨[123], 3, .GroupBegin⟩,
       ⟨[97, 32, 98], 4, .Text⟩, ⟨[125], 7, .GroupEnd⟩, ⟨[32], 8, .MergedSpacer⟩,
       ⟨[36], 9, .MathSwitch⟩, ⟨[120], 10, .Text⟩, ⟨[36], 11, .MathSwitch⟩,
       ⟨[37, 99], 12, .Comment⟩] := by decide +kernel

/-- **Characterisation.**  For a string without ignored characters, `ts` is the tokenizer
output iff it spells the string, is separated and carries the running offsets. -/
theorem tokenize_iff {s : Str} {ts : List Tok} (hs : ∀ c ∈ s, isIgnored (catOf c) = false) :
    tokenize s = some ts ↔ flat ts = s ∧ Separated none ts ∧ Positioned 0 ts := by
  constructor
  · intro h
    have := tokLoop_separated _ none ⟨none, 0, s⟩ h hs
    exact ⟨this.2.1, this.1, this.2.2⟩
  · rintro ⟨rfl, h1, h2⟩
    exact tokenize_inverse_positioned h1 h2

/-- The converse half: on a string without ignored characters, the tokenizer output is separated
and positioned. -/
theorem tokenize_separated {s : Str} {ts : List Tok}
    (hs : ∀ c ∈ s, isIgnored (catOf c) = false) (h : tokenize s = some ts) :
    Separated none ts ∧ Positioned 0 ts :=
  ((tokenize_iff hs).1 h).2

/-- The hypothesis of `tokenize_separated` cannot be dropped: `\`, NUL, `a` gives the tokens
`\` and `a` (Text, because the character before `a` was the NUL), which are not separated –
`\a` tokenizes to `\` and the command name `a`. -/
example : tokenize [92, 0, 97] = some [⟨[92], 0, .Escape⟩, ⟨[97], 2, .Text⟩] ∧
    ¬ Separated none [⟨[92], 0, .Escape⟩, ⟨[97], 2, .Text⟩] ∧
    tokenize [92, 97] = some [⟨[92], 0, .Escape⟩, ⟨[97], 1, .CommandName⟩] := by
  decide +kernel

end TexSoup
