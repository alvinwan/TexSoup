import TexSoupProofs.EditLemmas
/-!
# Edit lemmas: what `getAt` sees after an edit (untouched nodes, re-indexing)
-/
namespace TexSoup.Edit

theorem sameHolder_holderList {e : Expr} {s st : Step} (h : s.sameHolder st = true) :
    holderList e s = holderList e st := by
  cases s <;> cases st <;> simp_all [Step.sameHolder, holderList]

theorem sameHolder_eq {s st : Step} (h : s.sameHolder st = true) (hi : s.idx = st.idx) : s = st := by
  cases s <;> cases st <;> simp_all [Step.sameHolder, Step.idx]

theorem sameHolder_refl (s : Step) : s.sameHolder s = true := by
  cases s <;> simp [Step.sameHolder]

theorem sameHolder_withIdx (s st : Step) (j : Nat) :
    (s.withIdx j).sameHolder st = s.sameHolder st := by
  cases s <;> cases st <;> rfl

theorem idx_withIdx (s : Step) (j : Nat) : (s.withIdx j).idx = j := by
  cases s <;> rfl

theorem withIdx_idx (s : Step) : s.withIdx s.idx = s := by
  cases s <;> simp [Step.withIdx, Step.idx]

theorem stepGet_setHolder {e : Expr} {st : Step} {l : List Expr} (hl : holderList e st = some l)
    (l' : List Expr) (s : Step) :
    stepGet (setHolder e st l') s = if s.sameHolder st then l'[s.idx]? else stepGet e s := by
  by_cases hs : s.sameHolder st = true
  · rw [if_pos hs, holderList_stepGet ((sameHolder_holderList hs).trans (holderList_setHolder hl l'))]
  · rw [if_neg hs]
    rcases holderList_inv hl with ⟨j, rfl, _, rfl⟩ | ⟨i, j, a, rfl, ha, _, rfl⟩
    · cases s with
      | body j' => simp [Step.sameHolder] at hs
      | arg i' j' => simp [stepGet, setHolder]
    · cases s with
      | body j' => simp [stepGet, setHolder, ha]
      | arg i' j' =>
        have hne : i ≠ i' := by intro h; subst h; simp [Step.sameHolder] at hs
        simp [stepGet, setHolder, ha, hasArgs_of_args_get ha, hne]

theorem stepGet_updAt {e e' : Expr} {t : Step} {q : Path} {f : Expr → Option Expr}
    (hu : updAt e (t :: q) f = some e') :
    ∃ x x', stepGet e t = some x ∧ updAt x q f = some x' ∧
      ∀ s, stepGet e' s = if s = t then some x' else stepGet e s := by
  obtain ⟨l, x, x', hl, hlx, hx', rfl⟩ := updAt_cons_some.1 hu
  have hj : t.idx < l.length := (List.getElem?_eq_some_iff.mp hlx).1
  refine ⟨x, x', (holderList_stepGet hl).trans hlx, hx', fun s => ?_⟩
  rw [stepGet_setHolder hl]
  by_cases hs : s = t
  · subst hs; simp [sameHolder_refl, hj]
  · rw [if_neg hs]
    by_cases hsh : s.sameHolder t = true
    · have hne : t.idx ≠ s.idx := fun h => hs (sameHolder_eq hsh h.symm)
      rw [if_pos hsh, List.getElem?_set, if_neg hne,
        ← holderList_stepGet ((sameHolder_holderList hsh).trans hl)]
    · rw [if_neg hsh]

theorem getAt_updAt_below {q : Path} {f : Expr → Option Expr} {e e' y y' : Expr}
    (h : getAt e q = some y) (hf : f y = some y') (hu : updAt e q f = some e') (r : Path) :
    getAt e' (q ++ r) = getAt y' r := by
  obtain ⟨_, _, _, _, hupd⟩ := updAt_frame h
  obtain ⟨e'', he'', _, hget⟩ := hupd f y' hf
  cases hu.symm.trans he''
  rw [getAt_append, hget]
  rfl

theorem getAt_updAt_diverge {q : Path} {f : Expr → Option Expr} : ∀ {e e' : Expr} {r : Path},
    updAt e q f = some e' → ¬ q <+: r → ¬ r <+: q → getAt e' r = getAt e r := by
  induction q with
  | nil => intro e e' r _ h; exact absurd List.nil_prefix h
  | cons st q ih =>
    intro e e' r hu h1 h2
    cases r with
    | nil => exact absurd List.nil_prefix h2
    | cons s r =>
      obtain ⟨x, x', hx, hx', hs⟩ := stepGet_updAt hu
      rw [getAt_cons, getAt_cons, hs s]
      by_cases h : s = st
      · subst h
        simp only [if_true, hx, Option.bind_some]
        exact ih hx' (fun hp => h1 (by simpa using hp)) (fun hp => h2 (by simpa using hp))
      · rw [if_neg h]

/-- Re-indexing of a path after `d` elements at place `st` of the node at `q` have been
replaced by `n` elements: siblings after the edit point move by `n - d`. -/
def reindex : Path → Step → Nat → Nat → Path → Path
  | [], st, d, n, s :: rest =>
    if s.sameHolder st && st.idx + d ≤ s.idx then s.withIdx (s.idx - d + n) :: rest else s :: rest
  | [], _, _, _, [] => []
  | t :: q, st, d, n, s :: rest => if s = t then s :: reindex q st d n rest else s :: rest
  | _ :: _, _, _, _, [] => []

/-- `r` is neither the node at `q` or one of its ancestors, nor one of the `d` removed
elements (or below one). -/
def untouched : Path → Step → Nat → Path → Bool
  | [], st, d, s :: _ => !(s.sameHolder st && st.idx ≤ s.idx && s.idx < st.idx + d)
  | [], _, _, [] => false
  | t :: q, st, d, s :: rest => if s = t then untouched q st d rest else true
  | _ :: _, _, _, [] => false

theorem getElem?_spliceList_before {l ns : List Expr} {j d i : Nat} (hj : j ≤ l.length) (hi : i < j) :
    (spliceList j d ns l)[i]? = l[i]? := by
  unfold spliceList
  rw [List.getElem?_append_left (by rw [List.length_take, Nat.min_eq_left hj]; exact hi),
    List.getElem?_take_of_lt hi]

theorem getElem?_spliceList_from {l ns : List Expr} {j d : Nat} (hj : j ≤ l.length) (m : Nat) :
    (spliceList j d ns l)[j + m]? = (ns ++ l.drop (j + d))[m]? := by
  unfold spliceList
  rw [List.getElem?_append_right
      (by rw [List.length_take, Nat.min_eq_left hj]; exact Nat.le_add_right j m),
    List.length_take, Nat.min_eq_left hj, Nat.add_sub_cancel_left]

theorem getElem?_spliceList_after {l ns : List Expr} {j d : Nat} (hj : j ≤ l.length) (k : Nat) :
    (spliceList j d ns l)[j + (ns.length + k)]? = l[j + d + k]? := by
  rw [getElem?_spliceList_from hj, List.getElem?_append_right (Nat.le_add_right _ k),
    Nat.add_sub_cancel_left, List.getElem?_drop]

theorem getAt_holderSplice {q : Path} {st : Step} {d : Nat} {ns : List Expr} :
    ∀ {e e' y : Expr} {l : List Expr} {r : Path},
    getAt e q = some y → holderList y st = some l → st.idx + d ≤ l.length →
    updAt e q (holderSpliceF st d ns) = some e' → untouched q st d r = true →
    getAt e' (reindex q st d ns.length r) = getAt e r := by
  induction q with
  | nil =>
    intro e e' y l r h hl hd hu hr
    cases h
    cases r with
    | nil => cases hr
    | cons s rest =>
      obtain rfl : setHolder e st (spliceList st.idx d ns l) = e' :=
        Option.some.inj ((holderSpliceF_eq ns hl hd).symm.trans hu)
      have hj : st.idx ≤ l.length := Nat.le_trans (Nat.le_add_right _ d) hd
      simp only [untouched] at hr
      simp only [reindex]
      by_cases hsh : s.sameHolder st = true
      · have hse : stepGet e s = l[s.idx]? :=
          holderList_stepGet ((sameHolder_holderList hsh).trans hl)
        by_cases hafter : st.idx + d ≤ s.idx
        · obtain ⟨k, hk⟩ := Nat.exists_eq_add_of_le hafter
          have hidx : s.idx - d + ns.length = st.idx + (ns.length + k) := by omega
          simp only [hsh, hafter, decide_true, Bool.and_self, if_true]
          rw [getAt_cons, getAt_cons, stepGet_setHolder hl,
            if_pos ((sameHolder_withIdx s st _).trans hsh),
            idx_withIdx, hidx, getElem?_spliceList_after hj, hse, hk]
        · simp only [hsh, hafter, decide_false, Bool.and_false, Bool.false_eq_true, ↓reduceIte]
          simp only [hsh, Bool.true_and, Bool.not_eq_true', Bool.and_eq_false_iff,
            decide_eq_false_iff_not] at hr
          have hbefore : s.idx < st.idx := by omega
          rw [getAt_cons, getAt_cons, stepGet_setHolder hl, if_pos hsh,
            getElem?_spliceList_before hj hbefore, hse]
      · simp only [hsh, Bool.false_and, Bool.false_eq_true, ↓reduceIte]
        rw [getAt_cons, getAt_cons, stepGet_setHolder hl, if_neg hsh]
  | cons t q ih =>
    intro e e' y l r h hl hd hu hr
    cases r with
    | nil => cases hr
    | cons s rest =>
      obtain ⟨x, hx, hq⟩ := getAt_cons_some.1 h
      obtain ⟨x₁, x', hx₁, hx', hs⟩ := stepGet_updAt hu
      cases hx.symm.trans hx₁
      simp only [reindex, untouched] at hr ⊢
      by_cases hst : s = t
      · subst hst
        simp only [if_true] at hr ⊢
        rw [getAt_cons, getAt_cons, hs s, if_pos rfl, hx]
        exact ih hq hl hd hx' hr
      · simp only [hst, if_false]
        rw [getAt_cons, getAt_cons, hs s, if_neg hst]

theorem getAt_holderSplice_new {q : Path} {st : Step} {d : Nat} {ns : List Expr}
    {e e' y : Expr} {l : List Expr}
    (h : getAt e q = some y) (hl : holderList y st = some l) (hd : st.idx + d ≤ l.length)
    (hu : updAt e q (holderSpliceF st d ns) = some e') (m : Nat) (hm : m < ns.length) :
    getAt e' (q ++ [st.withIdx (st.idx + m)]) = ns[m]? := by
  rw [getAt_updAt_below h (holderSpliceF_eq ns hl hd) hu, getAt_singleton,
    stepGet_setHolder hl, if_pos ((sameHolder_withIdx st st _).trans (sameHolder_refl st)),
    idx_withIdx,
    getElem?_spliceList_from (Nat.le_trans (Nat.le_add_right _ d) hd),
    List.getElem?_append_left hm]

end TexSoup.Edit
