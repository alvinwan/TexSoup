import TexSoupProofs.BufSpec
/-!
# Every `Buffer` operation refines the list+index specification (lemmas for C20)

The fill loop of `__getitem__` only materialises more of the same sequence (`Ext`) and covers the
index it was asked for (`loopNext_post`); with the cursor restored the state still abstracts to
the same list and index. Indexing and slicing read the queue where it is known to agree with the
sequence (`Covers`), and every other method is a composition of these two and of `__next__`.
-/
namespace TexSoup
namespace Buf

/-- The underlying sequence. -/
def items (s : BufState) : List Str := s.queue ++ s.rest

def Covers (s : BufState) (n : Nat) : Prop := s.rest = [] ∨ n ≤ s.queue.length

def CoversTo (s : BufState) : Option Nat → Prop
  | some k => Covers s k
  | none => s.rest = []

theorem Covers.mono {s : BufState} {n m : Nat} (h : Covers s n) (hm : m ≤ n) : Covers s m :=
  h.imp id (Nat.le_trans hm)

theorem Covers.take {s : BufState} {n : Nat} (h : Covers s n) :
    s.queue.take n = (items s).take n := by
  unfold items
  rcases h with h | h
  · rw [h, List.append_nil]
  · rw [List.take_append_of_le_length h]

theorem Covers.get {s : BufState} {n k : Nat} (h : Covers s n) (hk : k < n) :
    s.queue[k]? = (items s)[k]? := by
  unfold items
  rcases h with h | h
  · rw [h, List.append_nil]
  · rw [List.getElem?_append_left (Nat.lt_of_lt_of_le hk h)]

theorem CoversTo.pySlice {s : BufState} {b : Option Nat} (h : CoversTo s b) (a : Option Nat) :
    pySlice s.queue a b = pySlice (items s) a b := by
  cases b with
  | none => rw [items, show s.rest = [] from h, List.append_nil]
  | some k => exact congrArg (List.drop _) (Covers.take h)

structure Ext (s s' : BufState) : Prop where
  items_eq : items s' = items s
  len_le : s.queue.length ≤ s'.queue.length

theorem Ext.refl (s : BufState) : Ext s s := ⟨rfl, Nat.le_refl _⟩

theorem Ext.trans {a b c : BufState} (h₁ : Ext a b) (h₂ : Ext b c) : Ext a c :=
  ⟨h₂.items_eq.trans h₁.items_eq, Nat.le_trans h₁.len_le h₂.len_le⟩

theorem total_eq (s : BufState) : total s = (items s).length := List.length_append.symm

theorem Ext.total {s s' : BufState} (h : Ext s s') : total s' = total s := by
  rw [total_eq, total_eq, h.items_eq]

theorem Ext.covers {s s' : BufState} (h : Ext s s') {n : Nat} (hc : Covers s n) :
    Covers s' n := by
  rcases hc with hc | hc
  · have ht := h.total
    rw [Buf.total, Buf.total, hc, List.length_nil, Nat.add_zero] at ht
    exact Or.inl (List.eq_nil_of_length_eq_zero (by have := h.len_le; omega))
  · exact Or.inr (Nat.le_trans hc h.len_le)

theorem Ext.withI {s s' : BufState} (h : Ext s s') (i j : Nat) :
    Ext { s with i := i } { s' with i := j } := ⟨h.items_eq, h.len_le⟩

theorem fill_post (i : Nat) (r q : List Str) :
    (fill i q r).1 ++ (fill i q r).2 = q ++ r ∧ q.length ≤ (fill i q r).1.length ∧
      ((fill i q r).2 = [] ∨ i < (fill i q r).1.length) := by
  induction r generalizing q with
  | nil => simp [fill]
  | cons x r ih =>
    unfold fill
    split
    · obtain ⟨h1, h2, h3⟩ := ih (q ++ [x])
      refine ⟨by simpa using h1, ?_, h3⟩
      simp at h2; omega
    · simp; omega

theorem next_post (s : BufState) :
    Ext s (next s).1 ∧
      ((∃ x, (items s)[s.i]? = some x ∧ (next s).2 = .elem x ∧ (next s).1.i = s.i + 1 ∧
          s.i < (next s).1.queue.length) ∨
       ((items s)[s.i]? = none ∧ (next s).2 = .stopIteration ∧ (next s).1.i = s.i ∧
          (next s).1.rest = [])) := by
  have hf := fill_post s.i s.rest s.queue
  unfold next
  rcases hfe : fill s.i s.queue s.rest with ⟨q, r⟩
  rw [hfe] at hf
  obtain ⟨h1, h2, h3⟩ := hf
  dsimp only at h1 h2 h3 ⊢
  rcases hq : q[s.i]? with _ | x
  · have hlen : q.length ≤ s.i := List.getElem?_eq_none_iff.mp hq
    have hr : r = [] := h3.resolve_right (Nat.not_lt.mpr hlen)
    refine ⟨⟨h1, h2⟩, Or.inr ⟨?_, rfl, rfl, hr⟩⟩
    rw [items, ← h1, hr, List.append_nil, hq]
  · have hlen : s.i < q.length := (List.getElem?_eq_some_iff.mp hq).1
    refine ⟨⟨h1, h2⟩, Or.inl ⟨x, ?_, rfl, rfl, hlen⟩⟩
    rw [items, ← h1, List.getElem?_append_left hlen, hq]

/-- Enough fuel for a loop from `s`: every round but the last moves the cursor, and a round
at a cursor past the end is the last. -/
def FuelOk (fuel : Nat) (s : BufState) : Prop := 0 < fuel ∧ total s < fuel + s.i

theorem fuelOf_ok (s : BufState) : FuelOk (fuelOf s) s := by
  unfold FuelOk fuelOf; omega

theorem lt_total_of_get {s : BufState} {k : Nat} {x : Str} (h : (items s)[k]? = some x) :
    k < total s :=
  total_eq s ▸ (List.getElem?_eq_some_iff.mp h).1

theorem loopNext_post (fuel : Nat) (j : Option Nat) (s : BufState) (hf : FuelOk fuel s) :
    ∃ s1, loopNext fuel j s = some s1 ∧ Ext s s1 ∧
      ((∀ k, j = some k → s.i ≤ k) → CoversTo s1 (j.map (· + 1))) := by
  induction fuel generalizing s with
  | zero => exact absurd hf.1 (Nat.lt_irrefl 0)
  | succ fuel ih =>
    -- one round, exposed by `show`: unfolding through the equations of `loopNext` is slower
    show ∃ s1, (if loopCond j s.i = true then _ else some s) = some s1 ∧ _
    by_cases hc : loopCond j s.i = true
    · rw [if_pos hc]
      obtain ⟨hext, hn⟩ := next_post s
      rcases hns : next s with ⟨s', o⟩
      rw [hns] at hext hn
      dsimp only at hext hn ⊢
      rcases hn with ⟨x, hx, rfl, hi, hlen⟩ | ⟨_, rfl, _, hr⟩ <;> dsimp only
      · have hf' : FuelOk fuel s' := by
          have := hext.total; have := lt_total_of_get hx
          unfold FuelOk at *; omega
        obtain ⟨s1, h1, h2, h3⟩ := ih s' hf'
        refine ⟨s1, h1, hext.trans h2, fun hj => ?_⟩
        cases j with
        | none => exact h3 nofun
        | some k =>
          show Covers s1 (k + 1)
          rcases Nat.lt_or_ge s.i k with hlt | hge
          · exact h3 fun k' e => by cases e; omega
          · exact h2.covers (Or.inr (by have := hj k rfl; omega))
      · refine ⟨s', rfl, hext, fun _ => ?_⟩
        cases j with
        | none => exact hr
        | some k => exact Or.inl hr
    · rw [if_neg hc]
      refine ⟨s, rfl, Ext.refl s, fun hj => ?_⟩
      cases j with
      | none => exact absurd rfl hc
      | some k => exact absurd (decide_eq_true (hj k rfl)) hc

def Refines (r : BufState × BufOut) (t : Spec × BufOut) : Prop :=
  abs r.1 = t.1 ∧ r.2 = t.2 ∧ Inv r.1

theorem abs_eq (s : BufState) : abs s = ⟨items s, s.i⟩ := rfl

theorem Refines.elim {r : BufState × BufOut} {t : Spec × BufOut} (h : Refines r t) :
    ∃ s', r = (s', t.2) ∧ abs s' = t.1 ∧ Inv s' :=
  ⟨r.1, Prod.ext rfl h.2.1, h.1, h.2.2⟩

theorem Ext.refines {s s' : BufState} (h : Ext s s') (hi : s'.i = s.i) (hinv : Inv s)
    (o : BufOut) : Refines (s', o) (abs s, o) :=
  ⟨by rw [abs_eq, abs_eq, h.items_eq, hi], rfl, show Covers s' s'.i from hi ▸ h.covers hinv⟩

def elemOr (d : BufOut) : Option Str → BufOut
  | some x => .elem x
  | none => d

theorem Spec.at?_abs (s : BufState) (j : Int) :
    Spec.at? (abs s) j = if (s.i : Int) + j < 0 then none else (items s)[((s.i : Int) + j).toNat]? :=
  rfl

theorem Spec.step_getItem (sp : Spec) (k : Nat) :
    Spec.step sp (.getItem k) = (sp, elemOr .indexError sp.items[k]?) := by
  unfold Spec.step
  dsimp only
  cases sp.items[k]? <;> rfl

theorem Spec.step_peek (sp : Spec) (j : Int) :
    Spec.step sp (.peek j) = (sp, elemOr .none (sp.at? j)) := by
  unfold Spec.step
  dsimp only
  cases sp.at? j <;> rfl

theorem Spec.step_hasNext (sp : Spec) (n : Int) :
    Spec.step sp (.hasNext n) = (sp, .bool ((sp.at? (n - 1)).any (!·.isEmpty))) := by
  unfold Spec.step
  dsimp only
  cases sp.at? (n - 1) <;> rfl

theorem getItem_refines (s : BufState) (k : Nat) (hinv : Inv s) :
    Refines (getItem s k) (abs s, elemOr .indexError (items s)[k]?) := by
  obtain ⟨s1, h1, h2, h3⟩ := loopNext_post (fuelOf s) (some k) s (fuelOf_ok s)
  have hk : Covers s1 (k + 1) :=
    (Nat.lt_or_ge k s.i).elim (fun h => (h2.covers hinv).mono h)
      fun h => h3 fun _ e => by cases e; exact h
  have hget : s1.queue[k]? = (items s)[k]? := by
    rw [hk.get (Nat.lt_succ_self k), h2.items_eq]
  unfold getItem
  rw [h1]
  dsimp only
  rw [hget]
  cases (items s)[k]? <;> exact (h2.withI s.i s.i).refines rfl hinv _

theorem slice_post (s : BufState) (a b : Option Nat) :
    ∃ s', slice s a b = (s', .joined (join (pySlice s'.queue a b))) ∧ Ext s s' ∧ s'.i = s.i ∧
      ((∀ k, b = some k → s.i ≤ k) → CoversTo s' (b.map (· + 1))) := by
  obtain ⟨s1, h1, h2, h3⟩ := loopNext_post (fuelOf s) b s (fuelOf_ok s)
  exact ⟨{ s1 with i := s.i }, by rw [slice, h1], h2.withI s.i s.i, rfl, h3⟩

theorem slice_refines (s : BufState) (a b : Option Nat) (hinv : Inv s) :
    Refines (slice s a b) (abs s, .joined (join (pySlice (items s) a b))) := by
  obtain ⟨s', h1, h2, h3, h4⟩ := slice_post s a b
  have hb : CoversTo s' b := by
    cases b with
    | none => exact h4 nofun
    | some k =>
      exact (Nat.lt_or_ge k s.i).elim (fun h => (h2.covers hinv).mono (Nat.le_of_lt h))
        fun h => (h4 fun _ e => by cases e; exact h).mono (Nat.le_succ k)
  rw [h1, hb.pySlice, h2.items_eq]
  exact h2.refines h3 hinv _

theorem pySlice_window {α : Type} (l : List α) (i n : Nat) :
    pySlice l (some i) (some (i + n)) = (l.drop i).take n := by
  simp [pySlice, List.drop_take]

theorem move_refines {s s' : BufState} {c i j : Nat} (h : items s' = items s) (hi : s'.i = c)
    (hc : Covers s' (i + j + 1)) (hle : c ≤ i + j) :
    Refines (s', .joined (join (pySlice s'.queue (some i) (some (i + j)))))
      (⟨items s, c⟩, .joined (join (((items s).drop i).take j))) := by
  rw [CoversTo.pySlice (b := some _) (hc.mono (Nat.le_succ _)), h, pySlice_window]
  exact ⟨by rw [abs_eq, h, hi], rfl,
    show Covers s' s'.i from hi ▸ hc.mono (Nat.le_succ_of_le hle)⟩

theorem moveFwd_refines (s : BufState) (j : Nat) : Refines (moveFwd s j) (Spec.fwd (abs s) j) := by
  obtain ⟨s', h1, h2, h3, h4⟩ :=
    slice_post { s with i := s.i + j } (some (s.i + j - j)) (some (s.i + j))
  unfold moveFwd
  dsimp only
  rw [h1, Nat.add_sub_cancel]
  exact move_refines h2.items_eq h3 (h4 fun _ e => by cases e; exact Nat.le_refl _) (Nat.le_refl _)

theorem moveBwd_refines (s : BufState) (j : Nat) (hinv : Inv s) :
    Refines (moveBwd s j) (Spec.bwd (abs s) j) := by
  unfold moveBwd Spec.bwd
  rw [abs_eq]
  dsimp only
  by_cases hj : s.i < j
  · rw [if_pos hj, if_pos hj]
    exact ⟨rfl, rfl, hinv⟩
  · obtain ⟨s', h1, h2, h3, h4⟩ :=
      slice_post { s with i := s.i - j } (some (s.i - j)) (some (s.i - j + j))
    rw [if_neg hj, if_neg hj, h1]
    exact move_refines h2.items_eq h3 (h4 fun _ e => by cases e; exact Nat.le_add_right _ _)
      (Nat.le_add_right _ _)

theorem forward_refines (s : BufState) (j : Int) (hinv : Inv s) :
    Refines (forward s j) (Spec.step (abs s) (.forward j)) := by
  unfold forward Spec.step
  dsimp only
  split
  · exact moveBwd_refines s _ hinv
  · exact moveFwd_refines s _

theorem backward_refines (s : BufState) (j : Int) (hinv : Inv s) :
    Refines (backward s j) (Spec.step (abs s) (.backward j)) := by
  unfold backward Spec.step
  dsimp only
  split
  · exact moveFwd_refines s _
  · exact moveBwd_refines s _ hinv

theorem backward_natCast (s : BufState) (n : Nat) : backward s n = moveBwd s n := by
  rw [backward, if_neg (Int.not_lt.mpr (Int.natCast_nonneg n)), Int.toNat_natCast]

theorem next_refines (s : BufState) : Refines (next s) (Spec.step (abs s) .next) := by
  obtain ⟨hext, hn⟩ := next_post s
  unfold Spec.step
  rw [abs_eq]
  dsimp only
  rcases hn with ⟨x, hx, ho, hi, hlen⟩ | ⟨hx, ho, hi, hr⟩ <;> rw [hx]
  · exact ⟨by rw [abs_eq, hext.items_eq, hi], ho, Or.inr (by omega)⟩
  · exact ⟨by rw [abs_eq, hext.items_eq, hi], ho, Or.inl hr⟩

theorem peek_refines (s : BufState) (j : Int) (hinv : Inv s) :
    Refines (peek s j) (Spec.step (abs s) (.peek j)) := by
  rw [Spec.step_peek, Spec.at?_abs]
  unfold peek
  split
  · exact ⟨rfl, rfl, hinv⟩
  · obtain ⟨s', h1, h2, h3⟩ := (getItem_refines s ((s.i : Int) + j).toNat hinv).elim
    rw [h1]
    cases (items s)[((s.i : Int) + j).toNat]? <;> exact ⟨h2, rfl, h3⟩

theorem hasNext_refines (s : BufState) (n : Int) (hinv : Inv s) :
    Refines (hasNext s n) (Spec.step (abs s) (.hasNext n)) := by
  obtain ⟨s', h1, h2, h3⟩ := (peek_refines s (n - 1) hinv).elim
  rw [Spec.step_peek] at h1 h2
  rw [Spec.step_hasNext]
  unfold hasNext
  rw [h1]
  cases Spec.at? (abs s) (n - 1) <;> exact ⟨h2, rfl, h3⟩

theorem peekRange_window (s : BufState) (a b : Int) (hinv : Inv s) {lo hi : Nat}
    (hlo : ((s.i : Int) + a).toNat = lo) (hhi : ((s.i : Int) + b).toNat = hi) :
    ∃ s', peekRange s a b = (s', .joined (join (pySlice (items s) (some lo) (some hi)))) ∧
      abs s' = abs s ∧ Inv s' := by
  have hmax : ∀ x : Int, (max x 0).toNat = x.toNat := fun x => by omega
  unfold peekRange
  rw [hmax, hmax, hlo, hhi]
  exact (slice_refines s _ _ hinv).elim

theorem peekRange_refines (s : BufState) (a b : Int) (hinv : Inv s) :
    Refines (peekRange s a b) (Spec.step (abs s) (.peekRange a b)) := by
  obtain ⟨s', h1, h2, h3⟩ := peekRange_window s a b hinv rfl rfl
  rw [h1]
  exact ⟨h2, rfl, h3⟩

theorem startswith_refines (s : BufState) (x : Str) (hinv : Inv s) :
    Refines (startswith s x) (Spec.step (abs s) (.startswith x)) := by
  obtain ⟨s', h1, h2, h3⟩ := peekRange_window s 0 x.length hinv (lo := s.i)
    (hi := s.i + x.length) (by rw [Int.add_zero, Int.toNat_natCast])
    (by rw [← Int.natCast_add, Int.toNat_natCast])
  unfold startswith
  rw [h1, pySlice_window]
  exact ⟨h2, rfl, h3⟩

theorem endswith_refines (s : BufState) (x : Str) (hinv : Inv s) :
    Refines (endswith s x) (Spec.step (abs s) (.endswith x)) := by
  obtain ⟨s', h1, h2, h3⟩ := peekRange_window s (-(x.length : Int)) 0 hinv
    (lo := s.i - x.length) (hi := s.i) (by rw [← Int.sub_eq_add_neg, Int.toNat_sub])
    (by rw [Int.add_zero, Int.toNat_natCast])
  unfold endswith
  rw [h1]
  exact ⟨h2, rfl, h3⟩

theorem scan_none {l : List Str} {i : Nat} (cond : List Str) (h : l[i]? = none) :
    Spec.scan cond (l.drop i) = [] := by
  rw [List.drop_eq_nil_of_le (List.getElem?_eq_none_iff.mp h)]
  rfl

theorem drop_of_get {l : List Str} {i : Nat} {x : Str} (h : l[i]? = some x) :
    l.drop i = x :: l.drop (i + 1) := by
  obtain ⟨hlt, rfl⟩ := List.getElem?_eq_some_iff.mp h
  exact List.drop_eq_getElem_cons hlt

theorem scan_some {l : List Str} {i : Nat} {x : Str} (cond : List Str) (h : l[i]? = some x) :
    Spec.scan cond (l.drop i) =
      if (!x.isEmpty && !memStr x cond) = true then x :: Spec.scan cond (l.drop (i + 1))
      else [] := by
  rw [drop_of_get h]
  exact List.takeWhile_cons ..

theorem take_length_takeWhile {α : Type} (p : α → Bool) (l : List α) :
    l.take (l.takeWhile p).length = l.takeWhile p := by
  induction l with
  | nil => rfl
  | cons a l ih =>
    rw [List.takeWhile_cons]
    split
    · rw [List.length_cons, List.take_succ_cons, ih]
    · rfl

theorem scanLoop_post (cond : List Str) (fuel : Nat) (c : Str) (n : Nat) (s : BufState)
    (hinv : Inv s) (hf : FuelOk fuel s) :
    ∃ s', scanLoop cond fuel c n s =
        (s', .joined (c ++ join (Spec.scan cond ((items s).drop s.i))),
          n + (Spec.scan cond ((items s).drop s.i)).length) ∧
      abs s' = ⟨items s, s.i + (Spec.scan cond ((items s).drop s.i)).length⟩ ∧ Inv s' := by
  induction fuel generalizing c n s with
  | zero => exact absurd hf.1 (Nat.lt_irrefl 0)
  | succ fuel ih =>
    -- the three calls of one round, each on the state the previous one left
    obtain ⟨s1, e1, a1, i1⟩ := (hasNext_refines s 1 hinv).elim
    obtain ⟨s2, e2, a2, i2⟩ := (peek_refines s1 0 i1).elim
    obtain ⟨s3, e3, a3, i3⟩ := (moveFwd_refines s2 1).elim
    rw [Spec.step_hasNext] at e1 a1
    rw [Spec.step_peek] at e2 a2
    dsimp only at e1 a1 e2 a2
    rw [a1] at e2 a2
    rw [a2] at e3 a3
    have hat : Spec.at? (abs s) 0 = (items s)[s.i]? := by
      rw [Spec.at?_abs, if_neg (by omega)]; rfl
    rw [show (1 : Int) - 1 = 0 from rfl, hat] at e1
    rw [hat] at e2
    have stop : ∀ s' : BufState, (s', BufOut.joined c, n) = (s', BufOut.joined (c ++ join []), n + 0) :=
      fun s' => congrArg (fun t => (s', BufOut.joined t, n)) (List.append_nil c).symm
    -- one round, exposed by `show`: unfolding through the equations of `scanLoop` is slower
    show ∃ s', (match hasNext s 1 with
      | (s1, .bool true) => _
      | (s1, .bool false) => (s1, BufOut.joined c, n)
      | (s1, e) => (s1, e, n) : BufState × BufOut × Nat) = _ ∧ _
    rcases hx : (items s)[s.i]? with _ | x
    · rw [e1, hx, scan_none cond hx]
      exact ⟨s1, stop s1, a1, i1⟩
    · have hs := scan_some cond hx
      cases hemp : x.isEmpty
      · rw [e1, hx, Option.any, hemp]
        dsimp only [Bool.not]
        rw [e2, hx]
        dsimp only [elemOr, condOf]
        cases hm : memStr x cond
        · -- `x` is passed: one more round from the next position
          have ht : join (((abs s).items.drop (abs s).idx).take 1) = x := by
            rw [show (abs s).items.drop (abs s).idx = _ from drop_of_get hx]; exact List.append_nil x
          obtain ⟨hit, hi⟩ : items s3 = items s ∧ s3.i = s.i + 1 := Spec.mk.inj a3
          have hf3 : FuelOk fuel s3 := by
            have h1 := lt_total_of_get hx
            have h2 := hf.2
            rw [FuelOk, total_eq, hit, hi, ← total_eq]
            omega
          obtain ⟨s', e', a', i'⟩ := ih (c ++ x) (n + 1) s3 i3 hf3
          rw [hit, hi] at e' a'
          rw [show forward s2 1 = moveFwd s2 1 from rfl, e3]
          dsimp only [Spec.fwd]
          rw [ht, e', hs, hemp, hm]
          exact ⟨s', by rw [List.append_assoc, Nat.add_assoc, Nat.add_comm 1]; rfl,
            by rw [a', Nat.add_assoc, Nat.add_comm 1]; rfl, i'⟩
        · rw [hs, hemp, hm]
          exact ⟨s2, stop s2, a2, i2⟩
      · -- an empty token is falsy: `hasNext` answers `False`
        rw [e1, hx, Option.any, hemp, hs, hemp]
        exact ⟨s1, stop s1, a1, i1⟩

theorem forwardUntil_refines (s : BufState) (cond : List Str) (hinv : Inv s) :
    Refines (forwardUntil s cond) (Spec.step (abs s) (.forwardUntil cond)) := by
  obtain ⟨s0, e0, a0, i0⟩ := (peek_refines s 0 hinv).elim
  rw [Spec.step_peek] at a0
  obtain ⟨hit0, hi0⟩ : items s0 = items s ∧ s0.i = s.i := Spec.mk.inj a0
  obtain ⟨s', e', a', i'⟩ := scanLoop_post cond (fuelOf s0) [] 0 s0 i0 (fuelOf_ok s0)
  rw [hit0, hi0] at e' a'
  unfold forwardUntil
  rw [e0]
  dsimp only
  rw [e']
  exact ⟨a', rfl, i'⟩

theorem numForwardUntil_refines (s : BufState) (cond : List Str) (hinv : Inv s) :
    Refines (numForwardUntil s cond) (Spec.step (abs s) (.numForwardUntil cond)) := by
  obtain ⟨s1, e1, a1, i1⟩ := scanLoop_post cond (fuelOf s) [] 0 s hinv (fuelOf_ok s)
  generalize hr : Spec.scan cond ((items s).drop s.i) = r at e1 a1
  obtain ⟨s2, e2, a2, i2⟩ := (moveBwd_refines s1 r.length i1).elim
  have hrun : ((items s).drop (s.i + r.length - r.length)).take r.length = r := by
    rw [Nat.add_sub_cancel, ← hr]; exact take_length_takeWhile _ _
  rw [a1, Spec.bwd, if_neg (Nat.not_lt.mpr (Nat.le_add_left _ _))] at e2 a2
  dsimp only at e2 a2
  rw [hrun] at e2
  unfold numForwardUntil
  rw [e1]
  dsimp only
  rw [backward_natCast, Nat.zero_add, e2]
  dsimp only
  rw [if_pos (List.nil_append _).symm, ← hr]
  exact ⟨by rw [a2, Nat.add_sub_cancel]; rfl, rfl, i2⟩

theorem step_refines_aux (s : BufState) (op : BufOp) (hinv : Inv s) :
    Refines (step s op) (Spec.step (abs s) op) := by
  cases op with
  | next => exact next_refines s
  | forward j => exact forward_refines s j hinv
  | backward j => exact backward_refines s j hinv
  | peek j => exact peek_refines s j hinv
  | peekRange a b => exact peekRange_refines s a b hinv
  | getItem k => exact Spec.step_getItem .. ▸ getItem_refines s k hinv
  | slice a b => exact slice_refines s a b hinv
  | hasNext n => exact hasNext_refines s n hinv
  | startswith x => exact startswith_refines s x hinv
  | endswith x => exact endswith_refines s x hinv
  | forwardUntil c => exact forwardUntil_refines s c hinv
  | numForwardUntil c => exact numForwardUntil_refines s c hinv
  | position => exact ⟨rfl, rfl, hinv⟩

def okOut : BufOut → Bool
  | .fuel | .indexError | .assertionError => false
  | _ => true

theorem errors_of_ok {o : BufOut} (h : okOut o = true) {P Q : Prop} :
    o ≠ .fuel ∧ (o = .indexError → P) ∧ (o = .assertionError → Q) := by
  refine ⟨?_, ?_, ?_⟩ <;> rintro rfl <;> exact absurd h Bool.false_ne_true

theorem Spec.errors (sp : Spec) (op : BufOp) :
    (Spec.step sp op).2 ≠ .fuel ∧
    ((Spec.step sp op).2 = .indexError → ∃ k, op = .getItem k ∧ sp.items.length ≤ k) ∧
    ((Spec.step sp op).2 = .assertionError →
      ∃ j : Int, (sp.idx : Int) < j ∧ (op = .backward j ∨ op = .forward (-j))) := by
  cases op with
  | getItem k =>
    rw [Spec.step_getItem]
    cases h : sp.items[k]? with
    | none => exact ⟨nofun, fun _ => ⟨k, rfl, List.getElem?_eq_none_iff.mp h⟩, nofun⟩
    | some x => exact errors_of_ok rfl
  | forward j =>
    unfold Spec.step
    dsimp only [Spec.fwd, Spec.bwd]
    split
    · split
      · exact ⟨nofun, nofun, fun _ => ⟨-j, by omega, Or.inr (by rw [Int.neg_neg])⟩⟩
      · exact errors_of_ok rfl
    · exact errors_of_ok rfl
  | backward j =>
    unfold Spec.step
    dsimp only [Spec.fwd, Spec.bwd]
    split
    · exact errors_of_ok rfl
    · split
      · exact ⟨nofun, nofun, fun _ => ⟨j, by omega, Or.inl rfl⟩⟩
      · exact errors_of_ok rfl
  | next => unfold Spec.step; dsimp only; split <;> exact errors_of_ok rfl
  | peek j => rw [Spec.step_peek]; cases sp.at? j <;> exact errors_of_ok rfl
  | hasNext n => rw [Spec.step_hasNext]; exact errors_of_ok rfl
  | _ => exact errors_of_ok rfl

theorem Spec.step_observer {op : BufOp} (h : Spec.IsObserver op) (sp : Spec) :
    (Spec.step sp op).1 = sp := by
  cases op with
  | peek j => rw [Spec.step_peek]
  | hasNext n => rw [Spec.step_hasNext]
  | getItem k => rw [Spec.step_getItem]
  | next | forward | backward | forwardUntil => exact h.elim
  | _ => rfl

theorem init_inv (src : List Str) : Inv (init src) := Or.inr (Nat.le_refl _)

end Buf
end TexSoup
