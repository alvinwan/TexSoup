import TexSoupModel.Tok
/-!
# Helper lemmas for the categoriser / tokenizer proofs: lists, tables, `Erased`

Everything here is independent of the tokenizer loop.  Facts about the *generated* tables
are proved by evaluation, so that they stop compiling when the Python tables change in a way
that falsifies them.
-/
namespace TexSoup

theorem countWhile_le (p : Ch → Bool) (l : Str) : countWhile p l ≤ l.length := by
  induction l with
  | nil => simp [countWhile]
  | cons c r ih =>
    simp only [countWhile]
    split <;> simp <;> omega

theorem take_countWhile (p : Ch → Bool) (l : Str) :
    l.take (countWhile p l) = l.takeWhile p := by
  induction l with
  | nil => simp [countWhile]
  | cons c r ih =>
    simp only [countWhile, List.takeWhile_cons]
    split <;> simp [*]

theorem drop_countWhile (p : Ch → Bool) (l : Str) :
    l.drop (countWhile p l) = l.dropWhile p := by
  induction l with
  | nil => simp [countWhile]
  | cons c r ih =>
    simp only [countWhile, List.dropWhile_cons]
    split <;> simp [*]

theorem countWhile_eq_length_takeWhile (p : Ch → Bool) (l : Str) :
    countWhile p l = (l.takeWhile p).length := by
  induction l with
  | nil => simp [countWhile]
  | cons c r ih =>
    simp only [countWhile, List.takeWhile_cons]
    split <;> simp [*]

theorem mem_take_countWhile {p : Ch → Bool} {l : Str} {c : Ch}
    (h : c ∈ l.take (countWhile p l)) : p c = true := by
  induction l with
  | nil => simp [countWhile] at h
  | cons a r ih =>
    cases hp : p a with
    | false => simp [countWhile, hp] at h
    | true =>
      simp only [countWhile, hp, if_true, List.take_succ_cons, List.mem_cons] at h
      rcases h with rfl | h
      · exact hp
      · exact ih h

theorem mem_takeWhile {p : Ch → Bool} {l : Str} {c : Ch} (h : c ∈ l.takeWhile p) : p c = true := by
  rw [← take_countWhile] at h
  exact mem_take_countWhile h

theorem countWhile_cons_pos {p : Ch → Bool} {c : Ch} {r : Str} (h : p c = true) :
    countWhile p (c :: r) = countWhile p r + 1 := by
  simp [countWhile, h]

theorem countWhile_cons_neg {p : Ch → Bool} {c : Ch} {r : Str} (h : p c = false) :
    countWhile p (c :: r) = 0 := by
  simp [countWhile, h]

theorem countWhile_cons_eq_zero {p : Ch → Bool} {c : Ch} {r : Str}
    (h : countWhile p (c :: r) = 0) : p c = false := by
  cases hp : p c with
  | false => rfl
  | true => simp [countWhile, hp] at h

theorem countWhile_eq_zero_of_all {p : Ch → Bool} {l : Str}
    (h : ∀ c ∈ l, p c = false) : countWhile p l = 0 := by
  cases l with
  | nil => rfl
  | cons c r => exact countWhile_cons_neg (h c (by simp))

theorem countWhile_all {p : Ch → Bool} {a : Str} (ha : ∀ x ∈ a, p x = true) :
    countWhile p a = a.length := by
  induction a with
  | nil => rfl
  | cons x a ih =>
    simp only [countWhile, ha x (by simp), if_true, List.length_cons]
    rw [ih fun y hy => ha y (by simp [hy])]

theorem countWhile_append_stop {p : Ch → Bool} (a : Str) {c : Ch} (r : Str) (hc : p c = false) :
    countWhile p (a ++ c :: r) = countWhile p a := by
  induction a with
  | nil => simp [countWhile, hc]
  | cons x a ih =>
    simp only [List.cons_append, countWhile, ih]

theorem countWhile_append_all {p : Ch → Bool} {a : Str} {c : Ch} (r : Str)
    (ha : ∀ x ∈ a, p x = true) (hc : p c = false) : countWhile p (a ++ c :: r) = a.length := by
  induction a with
  | nil => simp [countWhile, hc]
  | cons x a ih =>
    simp only [List.cons_append, countWhile, ha x (by simp), if_true, List.length_cons]
    rw [ih fun y hy => ha y (by simp [hy])]

theorem isPrefix_iff {p l : Str} : isPrefix p l = true ↔ ∃ t, l = p ++ t := by
  induction p generalizing l with
  | nil => simp [isPrefix]
  | cons a p ih =>
    cases l with
    | nil => simp [isPrefix]
    | cons b l =>
      simp only [isPrefix, Bool.and_eq_true, beq_iff_eq, ih, List.cons_append, List.cons.injEq]
      constructor
      · rintro ⟨rfl, t, rfl⟩; exact ⟨t, rfl, rfl⟩
      · rintro ⟨t, rfl, rfl⟩; exact ⟨rfl, t, rfl⟩

theorem isPrefix_take {p l : Str} (h : isPrefix p l = true) : l.take p.length = p := by
  obtain ⟨t, rfl⟩ := isPrefix_iff.1 h
  simp

theorem isPrefix_length_le {p l : Str} (h : isPrefix p l = true) : p.length ≤ l.length := by
  obtain ⟨t, rfl⟩ := isPrefix_iff.1 h
  simp

theorem isPrefix_append_self (a b : Str) : isPrefix a (a ++ b) = true :=
  isPrefix_iff.2 ⟨b, rfl⟩

theorem isPrefix_self (a : Str) : isPrefix a a = true :=
  isPrefix_iff.2 ⟨[], (List.append_nil a).symm⟩

theorem isPrefix_total {a b l : Str} (ha : isPrefix a l = true) (hb : isPrefix b l = true) :
    isPrefix a b = true ∨ isPrefix b a = true := by
  induction a generalizing b l with
  | nil => left; simp [isPrefix]
  | cons x a ih =>
    cases b with
    | nil => right; simp [isPrefix]
    | cons y b =>
      cases l with
      | nil => simp [isPrefix] at ha
      | cons z l =>
        simp only [isPrefix, Bool.and_eq_true, beq_iff_eq] at ha hb ⊢
        obtain ⟨rfl, ha⟩ := ha
        obtain ⟨rfl, hb⟩ := hb
        rcases ih ha hb with h | h
        · exact Or.inl ⟨rfl, h⟩
        · exact Or.inr ⟨rfl, h⟩

theorem firstMatch_some {tbl : List Str} {rest p : Str} (h : firstMatch tbl rest = some p) :
    p ∈ tbl ∧ isPrefix p rest = true := by
  induction tbl with
  | nil => simp [firstMatch] at h
  | cons q qs ih =>
    simp only [firstMatch] at h
    split at h
    · cases h; exact ⟨by simp, by assumption⟩
    · have := ih h; exact ⟨by simp [this.1], this.2⟩

theorem firstMatch_none {tbl : List Str} {rest : Str} :
    firstMatch tbl rest = none ↔ ∀ p ∈ tbl, isPrefix p rest = false := by
  induction tbl with
  | nil => simp [firstMatch]
  | cons q qs ih =>
    simp only [firstMatch, List.mem_cons, forall_eq_or_imp]
    split
    · simp [*]
    · simp [*]

theorem memStr_mem {x : Str} {l : List Str} (h : memStr x l = true) : x ∈ l := by
  induction l with
  | nil => simp [memStr] at h
  | cons a l ih =>
    simp only [memStr, Bool.or_eq_true, beq_iff_eq] at h
    exact List.mem_cons.2 (h.imp id ih)

theorem memStr_append (n : Str) (a b : List Str) :
    memStr n (a ++ b) = (memStr n a || memStr n b) := by
  induction a with
  | nil => simp [memStr]
  | cons x xs ih => simp [memStr, ih, Bool.or_assoc]

theorem flat_append (a b : List Tok) : flat (a ++ b) = flat a ++ flat b := by
  induction a with
  | nil => rfl
  | cons t r ih => simp [flat, ih]

@[simp] theorem lastD_nil (d : Option Ch) : lastD [] d = d := rfl

theorem lastD_cons (c : Ch) (r : Str) (d : Option Ch) : lastD (c :: r) d = lastD r (some c) := rfl

theorem lastD_append_singleton (l : Str) (c : Ch) (d : Option Ch) :
    lastD (l ++ [c]) d = some c := by
  induction l generalizing d with
  | nil => rfl
  | cons a l ih => simp [lastD, ih]

theorem lastD_eq_getLast (l : Str) (d : Option Ch) (h : l ≠ []) :
    lastD l d = some (l.getLast h) := by
  induction l generalizing d with
  | nil => exact absurd rfl h
  | cons a l ih =>
    cases l with
    | nil => rfl
    | cons b l => rw [lastD_cons, ih (some a) (by simp)]; simp

theorem lastD_append (a b : Str) (d : Option Ch) : lastD (a ++ b) d = lastD b (lastD a d) := by
  induction a generalizing d with
  | nil => rfl
  | cons x a ih => simp only [List.cons_append, lastD_cons, ih]

/-- On a non-empty text the default does not matter. -/
theorem lastD_congr_default {l : Str} (d d' : Option Ch) (h : l ≠ []) : lastD l d = lastD l d' := by
  rw [lastD_eq_getLast l d h, lastD_eq_getLast l d' h]

theorem lastD_mem {l : Str} {d : Option Ch} {c : Ch} (h : lastD l d = some c) :
    c ∈ l ∨ (l = [] ∧ d = some c) := by
  induction l generalizing d with
  | nil => right; exact ⟨rfl, h⟩
  | cons a l ih =>
    rw [lastD_cons] at h
    rcases ih h with h | ⟨rfl, h⟩
    · left; simp [h]
    · cases h; left; simp

@[simp] theorem TSt.adv_zero (st : TSt) : st.adv 0 = st := by
  cases st; simp [TSt.adv]

theorem TSt.adv_rest (st : TSt) (n : Nat) : (st.adv n).rest = st.rest.drop n := rfl

theorem TSt.adv_pos (st : TSt) (n : Nat) : (st.adv n).pos = st.pos + (st.rest.take n).length := rfl

/-! `harness/gen_tables.py` emits the category table and the string tables sorted.  A fact about all
pairs of entries that follows from a transitive relation between neighbours is therefore checked
in linear time. -/

/-- Every element stands in `r` to its successor. -/
def linked {α : Type} (r : α → α → Bool) : List α → Bool
  | a :: b :: l => r a b && linked r (b :: l)
  | _ => true

theorem pairwise_of_linked {α : Type} {r : α → α → Bool}
    (tr : ∀ a b c, r a b = true → r b c = true → r a c = true) :
    ∀ {l : List α}, linked r l = true → l.Pairwise (r · · = true)
  | [], _ => .nil
  | [_], _ => List.pairwise_singleton ..
  | a :: b :: l, h => by
    simp only [linked, Bool.and_eq_true] at h
    have ih := pairwise_of_linked tr h.2
    refine List.pairwise_cons.2 ⟨fun c hc => ?_, ih⟩
    rcases List.mem_cons.1 hc with rfl | hc
    · exact h.1
    · exact tr _ _ _ h.1 (List.rel_of_pairwise_cons ih hc)

theorem lookupD_of_mem {β : Type} {tbl : List (Nat × β)} (hn : (tbl.map Prod.fst).Nodup)
    {k : Nat} {v : β} (h : (k, v) ∈ tbl) (d : β) : lookupD tbl k d = v := by
  induction tbl with
  | nil => simp at h
  | cons e r ih =>
    obtain ⟨k', v'⟩ := e
    simp only [List.map_cons, List.nodup_cons, List.mem_map, Prod.exists, exists_and_right,
      exists_eq_right, not_exists] at hn
    simp only [lookupD]
    rcases List.mem_cons.1 h with h' | h'
    · cases h'; simp
    · have hne : k ≠ k' := by
        rintro rfl; exact hn.1 v h'
      simp [hne, ih hn.2 h']

theorem lookupD_of_not_mem {β : Type} {tbl : List (Nat × β)} {k : Nat}
    (h : k ∉ tbl.map Prod.fst) (d : β) : lookupD tbl k d = d := by
  induction tbl with
  | nil => rfl
  | cons e r ih =>
    obtain ⟨k', v'⟩ := e
    simp only [List.map_cons, List.mem_cons, not_or] at h
    simp [lookupD, h.1, ih h.2]

theorem lookupD_mem_or {β : Type} (tbl : List (Nat × β)) (k : Nat) (d : β) :
    (k, lookupD tbl k d) ∈ tbl ∨ (lookupD tbl k d = d ∧ k ∉ tbl.map Prod.fst) := by
  induction tbl with
  | nil => right; simp [lookupD]
  | cons e r ih =>
    obtain ⟨k', v'⟩ := e
    simp only [lookupD]
    split
    · subst_vars; left; simp
    · rename_i hne
      rcases ih with h | ⟨h1, h2⟩
      · left; simp [h]
      · right; exact ⟨h1, by simpa [hne] using h2⟩

theorem catOf_range (c : Ch) : catOf c = .Other ∨ catOf c ∈ Tables.catTable.map Prod.snd := by
  rcases lookupD_mem_or Tables.catTable c .Other with h | h
  · right; exact List.mem_map.2 ⟨_, h, rfl⟩
  · left; exact h.1

theorem mem_catTable_of_catOf {c : Ch} {v : CC} (h : catOf c = v) (hv : v ≠ .Other) :
    (c, v) ∈ Tables.catTable := by
  rcases lookupD_mem_or Tables.catTable c .Other with h' | ⟨h', _⟩
  · rw [← h]; exact h'
  · exact absurd (h ▸ h') hv

/-! The categories of `\ { } [ ] $ ( ) %`. -/

theorem catOf_backslash : catOf 92 = .Escape := by decide +kernel
theorem catOf_lbrace : catOf 123 = .GroupBegin := by decide +kernel
theorem catOf_rbrace : catOf 125 = .GroupEnd := by decide +kernel
theorem catOf_lbracket : catOf 91 = .BracketBegin := by decide +kernel
theorem catOf_rbracket : catOf 93 = .BracketEnd := by decide +kernel
theorem catOf_dollar : catOf 36 = .MathSwitch := by decide +kernel
theorem catOf_lparen : catOf 40 = .ParenBegin := by decide +kernel
theorem catOf_rparen : catOf 41 = .ParenEnd := by decide +kernel
theorem catOf_percent : catOf 37 = .Comment := by decide +kernel

/-- No character has the (parser-only) categories `MathGroupBegin`/`MathGroupEnd`. -/
theorem catOf_ne_mathGroup (c : Ch) : catOf c ≠ .MathGroupBegin ∧ catOf c ≠ .MathGroupEnd := by
  have h : ∀ v ∈ Tables.catTable.map Prod.snd, v ≠ CC.MathGroupBegin ∧ v ≠ CC.MathGroupEnd := by
    decide +kernel
  rcases catOf_range c with h' | h'
  · rw [h']; decide
  · exact h _ h'

theorem categorizeFrom_eq (k : Nat) (s : Str) :
    categorizeFrom k s = List.zipWith (fun c i => (c, i, catOf c)) s (List.range' k s.length) := by
  induction s generalizing k with
  | nil => simp [categorizeFrom]
  | cons c r ih => simp [categorizeFrom, ih, List.range'_succ]

theorem categorizeFrom_length (k : Nat) (s : Str) : (categorizeFrom k s).length = s.length := by
  simp [categorizeFrom_eq]

theorem categorizeFrom_getElem (k : Nat) (s : Str) (i : Nat) (h : i < s.length) :
    (categorizeFrom k s)[i]'(by simpa [categorizeFrom_length] using h) =
      (s[i], k + i, catOf s[i]) := by
  simp [categorizeFrom_eq]

/-- `Erased s t`: `t` is `s` with some characters deleted, every deleted character being one
that `tokenize_ignore` drops (category `Ignored` or `Invalid`, i.e. NUL / DEL). -/
inductive Erased : Str → Str → Prop
  | nil : Erased [] []
  | keep (c : Ch) {s t : Str} : Erased s t → Erased (c :: s) (c :: t)
  | drop (c : Ch) {s t : Str} : isIgnored (catOf c) = true → Erased s t → Erased (c :: s) t

theorem Erased.refl (s : Str) : Erased s s := by
  induction s with
  | nil => exact .nil
  | cons c r ih => exact .keep c ih

theorem Erased.of_ignored {s : Str} (h : ∀ c ∈ s, isIgnored (catOf c) = true) : Erased s [] := by
  induction s with
  | nil => exact .nil
  | cons c r ih => exact .drop c (h c (by simp)) (ih fun d hd => h d (by simp [hd]))

theorem Erased.append {a b c d : Str} (h1 : Erased a b) (h2 : Erased c d) :
    Erased (a ++ c) (b ++ d) := by
  induction h1 with
  | nil => simpa using h2
  | keep x _ ih => exact .keep x ih
  | drop x hx _ ih => exact .drop x hx ih

theorem Erased.sublist {s t : Str} (h : Erased s t) : t.Sublist s := by
  induction h with
  | nil => exact .slnil
  | keep x _ ih => exact ih.cons_cons x
  | drop x _ _ ih => exact ih.cons x

theorem Erased.length_le {s t : Str} (h : Erased s t) : t.length ≤ s.length :=
  h.sublist.length_le

theorem Erased.eq_of_no_ignored {s t : Str} (h : Erased s t)
    (hs : ∀ c ∈ s, isIgnored (catOf c) = false) : t = s := by
  induction h with
  | nil => rfl
  | keep x _ ih => rw [ih fun d hd => hs d (by simp [hd])]
  | drop x hx _ _ => have := hs x (by simp); simp [hx] at this

theorem Erased.mem_of_not_ignored {s t : Str} (h : Erased s t) {c : Ch} (hc : c ∈ s)
    (hi : isIgnored (catOf c) = false) : c ∈ t := by
  induction h with
  | nil => simp at hc
  | keep x _ ih =>
    rcases List.mem_cons.1 hc with rfl | hc
    · simp
    · simp [ih hc]
  | drop x hx _ ih =>
    rcases List.mem_cons.1 hc with rfl | hc
    · simp [hx] at hi
    · exact ih hc

end TexSoup
