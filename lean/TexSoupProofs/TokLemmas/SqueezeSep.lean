import TexSoupProofs.TokLemmas.NextChar
/-!
# Dropping the spacers in front of argument openers keeps a token list separated

`SDrop pt ts ts'`: `ts'` is `ts` without some `MergedSpacer` tokens, each of which stands between a
token `n` – a closing `}` / `]`, a command name or a sizing command – and an opening `{` / `[`.
If `ts` is `Separated` and no command-name token is a bare *sizing prefix* (`\left`, `\big` …:
followed by its delimiter it would be one sizing-command token), then `ts'` is `Separated`
(`SDrop.separated`).
-/
namespace TexSoup

def isOpenerTok (o : Tok) : Prop := o.cat = .GroupBegin ∨ o.cat = .BracketBegin

/-- tokens after which a spacer is dropped: the closer of the previous argument, or the name -/
def beforeDropOK (n : Tok) : Prop :=
  n.cat = .GroupEnd ∨ n.cat = .BracketEnd ∨ n.cat = .CommandName ∨ n.cat = .PunctuationCommandName

/-- `SDrop pt ts ts'`: `ts'` is `ts` without some spacers, each between a `beforeDropOK` token
(`pt` is the token before `ts`) and an opener. -/
inductive SDrop : Option Tok → List Tok → List Tok → Prop
  | nil (pt : Option Tok) : SDrop pt [] []
  | keep (pt : Option Tok) (t : Tok) {r r' : List Tok} : SDrop (some t) r r' → SDrop pt (t :: r) (t :: r')
  | drop (n s o : Tok) {r r' : List Tok} : s.cat = .MergedSpacer → isOpenerTok o → beforeDropOK n →
      SDrop (some o) r r' → SDrop (some n) (s :: o :: r) (o :: r')

def lastTokD : List Tok → Option Tok → Option Tok
  | [], d => d
  | t :: r, _ => lastTokD r (some t)

theorem lastTokD_append (a b : List Tok) (d : Option Tok) :
    lastTokD (a ++ b) d = lastTokD b (lastTokD a d) := by
  induction a generalizing d with
  | nil => rfl
  | cons t a ih => simp only [List.cons_append, lastTokD, ih]

theorem SDrop.refl : ∀ (ts : List Tok) (pt : Option Tok), SDrop pt ts ts
  | [], pt => .nil pt
  | t :: r, pt => .keep pt t (SDrop.refl r _)

theorem SDrop.append {pt : Option Tok} {a a' b b' : List Tok} (h1 : SDrop pt a a')
    (h2 : SDrop (lastTokD a pt) b b') : SDrop pt (a ++ b) (a' ++ b') := by
  induction h1 with
  | nil pt => exact h2
  | keep pt t _ ih => exact .keep pt t (ih h2)
  | drop n s o hs ho hn _ ih => exact .drop n s o hs ho hn (ih h2)

theorem nameCh_opener {c : Ch} (h : catOf c = .GroupBegin ∨ catOf c = .BracketBegin) :
    nameCh c = false := by
  have h42 : catOf 42 = CC.Other := by decide
  unfold nameCh isLetterCh
  rcases h with h | h <;> simp only [h, Bool.or_eq_false_iff, beq_eq_false_iff_ne, ne_eq] <;>
    exact ⟨by decide, fun hc => by rw [hc, h42] at h; cases h⟩

theorem opener_head {prev : Option Ch} {o : Tok} {w : Str} (ho : isOpenerTok o) (h : TokOK prev o w) :
    ∀ c ∈ o.text.head?, nameCh c = false := by
  unfold TokOK at h
  rcases ho with ho | ho <;> rw [ho] at h <;> simp only [TokOK'] at h <;>
    obtain ⟨c0, ht, h0⟩ := txtOne_iff.1 h <;> rw [ht] <;> intro c hc <;> cases hc
  · exact nameCh_opener (.inl h0)
  · exact nameCh_opener (.inr h0)

theorem SDrop.separated {pt : Option Tok} {ts ts' : List Tok} (h : SDrop pt ts ts') :
    (∀ t ∈ ts, t.cat = .CommandName → t.text ∉ Tables.sizePrefix) →
    ∀ prev, Separated prev ts → Separated prev ts' := by
  induction h with
  | nil pt => intro _ _ _; trivial
  | @keep pt t r r' hsub ih =>
    intro hns prev hs
    obtain ⟨hne, hok, hrest⟩ := hs
    refine ⟨hne, ?_, ih (fun x hx => hns x (by simp [hx])) _ hrest⟩
    cases hsub with
    | nil => exact hok
    | @keep _ u r1 r1' _ =>
      exact hok.of_head (by rw [flat_head_cons u r1' hrest.1, flat_head_cons u r1 hrest.1])
        (hns t (by simp))
    | @drop _ s o r1 r1' hsc ho hn _ =>
      -- `t` is now followed by the opener instead of the spacer
      unfold TokOK at hok ⊢
      rcases hn with hn | hn | hn | hn
      · rw [hn] at hok ⊢; exact hok
      · rw [hn] at hok ⊢; exact hok
      · have hhead : ∀ c ∈ (flat (o :: r1')).head?, nameCh c = false := by
          rw [flat_head_cons o r1' hrest.2.2.1]; exact opener_head ho hrest.2.2.2.1
        have hL := (commandName_chars hn hok).1
        rw [hn] at hok ⊢
        exact ⟨hok.1, hok.2.1, hhead,
          firstMatch_none_of_not_sizing hL hhead (hns t (by simp) hn)⟩
      · rw [hn] at hok ⊢; exact hok
  | @drop n s o r r' hsc ho hn hsub ih =>
    intro hns prev hs
    obtain ⟨hnes, _, hrest⟩ := hs
    obtain ⟨hneo, hoko, hresto⟩ := hrest
    refine ⟨hneo, ?_, ?_⟩
    · unfold TokOK at hoko ⊢
      rcases ho with ho | ho <;> rw [ho] at hoko ⊢ <;> exact hoko
    · rw [lastD_congr_default _ (lastD s.text prev) hneo]
      exact ih (fun x hx => hns x (by simp [hx])) _ hresto

end TexSoup
