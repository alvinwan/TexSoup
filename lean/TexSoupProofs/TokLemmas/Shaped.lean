import TexSoupProofs.TokLemmas
import TexSoupProofs.Reader.ConsDefs
/-!
# Every token the tokenizer produces is "shaped"

A delimiter-category token carries exactly the text its category stands for; which character
that is, is stated in `Properties/TableSpec.lean`.
-/
namespace TexSoup

theorem char_of_cat {c n : Ch} {v : CC} (hv : TableSpec.charsOf v = [n]) (hne : v ≠ .Other)
    (h : catOf c = v) : c = n :=
  List.mem_singleton.1 (hv ▸ mem_charsOf h hne)

theorem escape_char {c : Ch} (h : catOf c = .Escape) : c = 92 :=
  char_of_cat TableSpec.structural_chars.1 (by decide) h
theorem groupBegin_char {c : Ch} (h : catOf c = .GroupBegin) : c = 123 :=
  char_of_cat TableSpec.structural_chars.2.1 (by decide) h
theorem groupEnd_char {c : Ch} (h : catOf c = .GroupEnd) : c = 125 :=
  char_of_cat TableSpec.structural_chars.2.2.1 (by decide) h
theorem mathSwitch_char {c : Ch} (h : catOf c = .MathSwitch) : c = 36 :=
  char_of_cat TableSpec.structural_chars.2.2.2.1 (by decide) h
theorem bracketBegin_char {c : Ch} (h : catOf c = .BracketBegin) : c = 91 :=
  char_of_cat TableSpec.structural_chars.2.2.2.2.1 (by decide) h
theorem bracketEnd_char {c : Ch} (h : catOf c = .BracketEnd) : c = 93 :=
  char_of_cat TableSpec.structural_chars.2.2.2.2.2.1 (by decide) h
theorem parenBegin_char {c : Ch} (h : catOf c = .ParenBegin) : c = 40 :=
  char_of_cat TableSpec.structural_chars.2.2.2.2.2.2.1 (by decide) h
theorem parenEnd_char {c : Ch} (h : catOf c = .ParenEnd) : c = 41 :=
  char_of_cat TableSpec.structural_chars.2.2.2.2.2.2.2 (by decide) h

theorem comment_char {c : Ch} (h : catOf c = .Comment) : c = 37 :=
  char_of_cat TableSpec.comment_ignored_invalid_chars.1 (by decide) h

theorem Emits.shaped {k : TkName} {prev : Option Ch} {rest : Str} {n : Nat} {c : TC} (pos : Nat)
    (h : Emits k prev rest n c) : shapedB ⟨rest.take n, pos, c⟩ = true := by
  cases h with
  | display h0 h1 => rw [mathSwitch_char h0, mathSwitch_char h1]; rfl
  | math h0 => rw [mathSwitch_char h0]; rfl
  | asym h0 h1 =>
    rw [escape_char h0]
    rcases asymSwitch_eq_some h1 with ⟨hc, rfl⟩ | ⟨hc, rfl⟩ | ⟨hc, rfl⟩ | ⟨hc, rfl⟩
    · rw [bracketBegin_char hc]; rfl
    · rw [bracketEnd_char hc]; rfl
    · rw [parenBegin_char hc]; rfl
    · rw [parenEnd_char hc]; rfl
  | symbol hs =>
    rcases symbolOf_eq_some hs with ⟨hc, rfl⟩ | ⟨hc, rfl⟩ | ⟨hc, rfl⟩ | ⟨hc, rfl⟩ | ⟨hc, rfl⟩
    · rw [escape_char hc]; rfl
    · rw [groupBegin_char hc]; rfl
    · rw [groupEnd_char hc]; rfl
    · rw [bracketBegin_char hc]; rfl
    · rw [bracketEnd_char hc]; rfl
  | _ => rfl

theorem pass_shaped {ks : List TkName} {pt : Option TC} {st st' : TSt} {t : Tok}
    (h : pass ks pt st = .tok t st') : shapedB t = true := by
  obtain ⟨_, _, _, _, _, he, ht⟩ := pass_tok_emits h
  obtain ⟨text, pos, cat⟩ := t
  cases ht
  exact he.shaped pos

end TexSoup
