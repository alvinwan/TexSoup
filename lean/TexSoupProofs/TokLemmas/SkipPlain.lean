import TexSoupProofs.TokLemmas.InverseFirst
import TexSoupModel.Read
/-!
# `\end{name}` of a plain environment name is spelled by exactly five tokens

If, at a token boundary of a string without ignored characters, the remaining text starts
with `\end{name}` and `name` is *plain* (`PlainEnvName`), then the next five tokens are
`\`, `end`, `{`, `name`, `}`.
-/
namespace TexSoup

/-- The `spacers` tokenizer does not cut a proper piece off the front of `name`: the leading
blank run (`spacerRun`) is empty, or covers the whole name, or is followed by a `Letter`/`Other`
character (in which case `tokenize_spacers` backs off). -/
def spacerSafeB (name : Str) : Bool :=
  spacerRun name == 0 ||
  match name.drop (spacerRun name) with
  | c :: _ => catOf c == .Letter || catOf c == .Other
  | [] => true

/-- A name that the tokenizer turns into exactly one token when it stands between `{` and `}`:
non-empty, made of characters at which `tokenize_string` does not stop and which are not
ignored, and not starting with a blank run that `tokenize_spacers` would split off. -/
def PlainEnvName (name : Str) : Prop :=
  name ≠ [] ∧
  (∀ c ∈ name, isStringStop (catOf c) = false ∧ isIgnored (catOf c) = false) ∧
  spacerSafeB name = true

instance (name : Str) : Decidable (PlainEnvName name) := by
  unfold PlainEnvName; infer_instance

theorem PlainEnvName.of_head {c : Ch} {r : Str} (h1 : catOf c ≠ .Spacer)
    (h2 : catOf c ≠ .EndOfLine)
    (h : ∀ x ∈ c :: r, isStringStop (catOf x) = false ∧ isIgnored (catOf x) = false) :
    PlainEnvName (c :: r) :=
  ⟨by simp, h, by simp [spacerSafeB, spacerRun_zero c r h1 h2]⟩

/-- A plain name followed by a stop character (`}`), not right after an escape, is one token
(a `Text`, or a `MergedSpacer` when the name consists of blanks only). -/
theorem pass_name (pt : Option TC) (prev : Option Ch) (pos : Nat)
    (hprev : ∀ p ∈ prev, catOf p ≠ .Escape) {name : Str} (hpl : PlainEnvName name) {c : Ch}
    (hc : isStringStop (catOf c) = true) (tail : Str) :
    ∃ cat, (cat = TC.Text ∨ cat = TC.MergedSpacer) ∧
      pass Tables.tokenizerOrder pt ⟨prev, pos, name ++ c :: tail⟩ =
        .tok ⟨name, pos, cat⟩ ⟨lastD name prev, pos + name.length, c :: tail⟩ := by
  obtain ⟨hne, hall, hsafe⟩ := hpl
  obtain ⟨c1, c2, c3, c4⟩ := stop_not_plain hc
  have hpe : prevEsc prev = false := by
    cases prev with
    | none => rfl
    | some p => simpa [prevEsc] using hprev p rfl
  by_cases hsp : textSpacerOK name = true
  · exact ⟨.Text, .inl rfl, first_text pt prev pos (c :: tail) hne (fun x hx => (hall x hx).1)
      (fun x hx => (hall x (List.mem_of_mem_head? hx)).2) hsp (fun h => by rw [hpe] at h; cases h)
      (fun x hx => by cases hx; exact hc)⟩
  · -- the blank run covers the whole name
    have hrun : spacerRun name = name.length := by
      have hle := spacerRun_le name
      simp only [spacerSafeB, textSpacerOK, Bool.or_eq_true, beq_iff_eq, not_or] at hsafe hsp
      rcases hsafe with h0 | hd
      · exact absurd h0 hsp.1
      · cases hdr : name.drop (spacerRun name) with
        | nil =>
          have := congrArg List.length hdr
          simp only [List.length_drop, List.length_nil] at this
          omega
        | cons x y => rw [hdr] at hd; exact absurd (by simpa [headIsLO, hdr] using hd) hsp.2
    exact ⟨.MergedSpacer, .inr rfl, first_spacer pt prev pos (c :: tail) hne
      (by rw [spacerRun_append_stop name tail c1 c2, hrun])
      (fun x hx => by cases hx; exact ⟨c3, c4⟩)⟩

theorem tokLoop_step {f : Nat} {pt : Option TC} {st st' : TSt} {ts : List Tok} {t : Tok}
    (h : tokLoop f pt st = some ts) (hne : st.rest ≠ [])
    (hp : pass Tables.tokenizerOrder pt st = .tok t st') :
    ∃ f' ts', ts = t :: ts' ∧ tokLoop f' (some t.cat) st' = some ts' := by
  cases f with
  | zero => simp [tokLoop] at h
  | succ f =>
    have he : st.rest.isEmpty = false := by simpa using hne
    simp only [tokLoop, he, Bool.false_eq_true, if_false, hp] at h
    cases hl : tokLoop f (some t.cat) st' with
    | none => simp [hl] at h
    | some ts' =>
      simp only [hl, Option.map_some, Option.some.injEq] at h
      exact ⟨f, ts', h.symm, hl⟩

theorem tokLoop_split {f : Nat} {pt : Option TC} {st : TSt} {pre rest : List Tok}
    (h : tokLoop f pt st = some (pre ++ rest)) (hno : NoIgnored st.rest) :
    ∃ f' pt' st', tokLoop f' pt' st' = some rest ∧ NoIgnored st'.rest := by
  induction f generalizing pt st pre with
  | zero => simp [tokLoop] at h
  | succ f ih =>
    cases pre with
    | nil => exact ⟨f + 1, pt, st, h, hno⟩
    | cons t0 pre =>
      simp only [tokLoop] at h
      split at h
      · cases h
      · split at h
        · rename_i t st' hp
          obtain ⟨ign, _, hr, _, _, _⟩ := pass_tok hp
          have hno' : NoIgnored st'.rest := fun c hc => hno c (by rw [hr]; simp [hc])
          cases hl : tokLoop f (some t.cat) st' with
          | none => simp [hl] at h
          | some ts' =>
            simp only [hl, Option.map_some, Option.some.injEq, List.cons_append,
              List.cons.injEq] at h
            exact ih (h.2 ▸ hl) hno'
        · rename_i st' hp
          obtain ⟨ign, _, hr, _⟩ := pass_none hp
          have hno' : NoIgnored st'.rest := fun c hc => hno c (by rw [hr]; simp [hc])
          exact ih h hno'

theorem firstMatch_e_none (r : Str) : firstMatch Tables.punctuationCommands (101 :: r) = none := by
  have hne : ∀ q ∈ Tables.punctuationCommands, q.head? ≠ some 101 := by decide +kernel
  rw [firstMatch_none]
  intro q hq
  cases q with
  | nil => exact absurd rfl (punctuationCommands_nonempty _ hq)
  | cons a q' =>
    have : a ≠ 101 := by simpa using hne _ hq
    simp [isPrefix, this]

theorem isLetterCh_n : isLetterCh 110 = true := by decide
theorem isLetterCh_d : isLetterCh 100 = true := by decide
theorem isLetterCh_brace : isLetterCh 123 = false := by decide

theorem tokLoop_endMarker {f : Nat} {pt : Option TC} {st : TSt} {ts : List Tok} {name tail : Str}
    (h : tokLoop f pt st = some ts) (hst : st.rest = endMarker name ++ tail)
    (hpl : PlainEnvName name) :
    ∃ t1 t2 t3 t4 t5 ts', ts = t1 :: t2 :: t3 :: t4 :: t5 :: ts' ∧
      t1.text = [92] ∧ t1.cat = .Escape ∧
      t2.text = [101, 110, 100] ∧ t2.cat = .CommandName ∧
      t3.text = [123] ∧ t3.cat = .GroupBegin ∧
      t4.text = name ∧ (t4.cat = .Text ∨ t4.cat = .MergedSpacer) ∧
      t5.text = [125] ∧ t5.cat = .GroupEnd := by
  obtain ⟨prev, pos, rest⟩ := st
  simp only at hst
  subst hst
  have hform : endMarker name ++ tail = 92 :: 101 :: 110 :: 100 :: 123 :: (name ++ 125 :: tail) := by
    simp [endMarker, strEnd]
  rw [hform] at h
  have hp1 := first_escape pt prev pos 92 (101 :: 110 :: 100 :: 123 :: (name ++ 125 :: tail))
    (by decide) (by
      intro c1 hc1
      simp only [List.head?_cons, Option.mem_def, Option.some.injEq] at hc1
      subst hc1; decide)
  obtain ⟨f1, ts1, rfl, h1⟩ := tokLoop_step h (by simp) hp1
  have hp2 : pass Tables.tokenizerOrder (some TC.Escape)
      ⟨some 92, pos + 1, 101 :: 110 :: 100 :: 123 :: (name ++ 125 :: tail)⟩ =
      .tok ⟨[101, 110, 100], pos + 1, .CommandName⟩
        ⟨some 100, pos + 1 + (1 + 2), 123 :: (name ++ 125 :: tail)⟩ := by
    rw [first_commandName (some TC.Escape) 92 (pos + 1) 101
      (110 :: 100 :: 123 :: (name ++ 125 :: tail)) (by decide) (by decide) (firstMatch_e_none _)]
    simp [isLetterCh_n, isLetterCh_d, isLetterCh_brace, lastD]
  obtain ⟨f2, ts2, rfl, h2⟩ := tokLoop_step h1 (by simp) hp2
  have hp3 := first_symbol (some TC.CommandName) (some 100) (pos + 1 + (1 + 2)) 123
    (name ++ 125 :: tail) .GroupBegin (by decide) (by decide)
  obtain ⟨f3, ts3, rfl, h3⟩ := tokLoop_step h2 (by simp) hp3
  obtain ⟨cat, hcat, hp4⟩ := pass_name (some TC.GroupBegin) (some 123) (pos + 1 + (1 + 2) + 1)
    (by intro p hp; simp only [Option.mem_def, Option.some.injEq] at hp; subst hp; decide)
    hpl (c := 125) (by decide) tail
  obtain ⟨f4, ts4, rfl, h4⟩ := tokLoop_step h3 (by simp) hp4
  have hp5 := first_symbol (some cat) (lastD name (some 123)) (pos + 1 + (1 + 2) + 1 + name.length)
    125 tail .GroupEnd (by decide) (by decide)
  obtain ⟨f5, ts5, rfl, h5⟩ := tokLoop_step h4 (by simp) hp5
  exact ⟨_, _, _, _, _, ts5, rfl, rfl, rfl, rfl, rfl, rfl, rfl, rfl, hcat, rfl, rfl⟩

/-- The five built-in verbatim-like names (`SKIP_ENV_NAMES`) are plain. -/
theorem skipEnvNames_plainEnvName : ∀ n ∈ Tables.skipEnvNames, PlainEnvName n := by
  decide +kernel

end TexSoup
