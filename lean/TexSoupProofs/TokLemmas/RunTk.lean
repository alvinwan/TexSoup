import TexSoupProofs.TokLemmas.Basic
/-!
# One tokenizer call

`Emits` lists, tokenizer by tokenizer, when a token is returned; every other answer is `None`,
and only `ignore` advances the cursor then.  What the later files need to know about the token
of a single tokenizer is read off `Emits`; here:

* a produced token has between 1 and `rest.length` characters;
* a `None` answer advances only over ignored characters.
-/
namespace TexSoup

theorem punctuationCommands_head_letter :
    ∀ q ∈ Tables.punctuationCommands, q.head?.map catOf = some CC.Letter := by
  decide +kernel

theorem punctuationCommands_nonempty : ∀ p ∈ Tables.punctuationCommands, p ≠ [] :=
  fun p hp h => nomatch h ▸ punctuationCommands_head_letter p hp

/-- `TokenCode` and `CategoryCodes` are different enumerations whose numeric values do not
collide at `Comment`: the guard `prev.category != CC.Comment` of `tokenize_line_comment`
is always true. -/
theorem tcValue_ne_ccComment (t : TC) : (Tables.tcValue t != Tables.ccValue .Comment) = true := by
  cases t <;> rfl

/-- The `prev` guard of `tokenize_line_comment` never fires: the comment tokenizer only looks
at the first character. -/
theorem runTk_comment (pt : Option TC) (prev : Option Ch) (c0 : Ch) (r : Str) :
    runTk .comment pt prev (c0 :: r) =
      if catOf c0 == .Comment then
        .tok (1 + countWhile (fun c => catOf c != .EndOfLine) r) .Comment
      else .skip 0 := by
  cases pt with
  | none => simp [runTk]
  | some t => simp [runTk, tcValue_ne_ccComment t]

theorem spacerRun_cons (c : Ch) (r : Str) :
    spacerRun (c :: r) =
      if isSpacerCh c then spacerRun r + 1
      else if catOf c == .EndOfLine then countWhile isSpacerCh r + 1 else 0 := by
  by_cases hc : isSpacerCh c = true
  · simp only [spacerRun, countWhile, hc, if_true, List.drop_succ_cons]
    omega
  · by_cases he : (catOf c == .EndOfLine) = true <;>
      simp [spacerRun, countWhile, hc, he]
    all_goals omega

theorem spacerRun_zero (c0 : Ch) (r : Str) (h1 : catOf c0 ≠ .Spacer) (h2 : catOf c0 ≠ .EndOfLine) :
    spacerRun (c0 :: r) = 0 := by
  simp [spacerRun_cons, isSpacerCh, h1, h2]

theorem spacerRun_le (rest : Str) : spacerRun rest ≤ rest.length := by
  induction rest with
  | nil => exact Nat.le_refl 0
  | cons c r ih =>
    have := countWhile_le isSpacerCh r
    rw [spacerRun_cons]
    simp only [List.length_cons]
    split
    · omega
    · split <;> omega

theorem spacerRun_append_stop (a : Str) {c : Ch} (r : Str) (h1 : catOf c ≠ .Spacer)
    (h2 : catOf c ≠ .EndOfLine) : spacerRun (a ++ c :: r) = spacerRun a := by
  induction a with
  | nil => exact spacerRun_zero c r h1 h2
  | cons x a ih =>
    rw [List.cons_append, spacerRun_cons, spacerRun_cons, ih,
      countWhile_append_stop a r (by simp [isSpacerCh, h1])]

theorem asymSwitch_eq_some {cc : CC} {t : TC} (h : asymSwitch cc = some t) :
    cc = .BracketBegin ∧ t = .DisplayMathGroupBegin ∨ cc = .BracketEnd ∧ t = .DisplayMathGroupEnd ∨
    cc = .ParenBegin ∧ t = .MathGroupBegin ∨ cc = .ParenEnd ∧ t = .MathGroupEnd := by
  cases cc <;> cases h <;> simp

theorem symbolOf_eq_some {cc : CC} {t : TC} (h : symbolOf cc = some t) :
    cc = .Escape ∧ t = .Escape ∨ cc = .GroupBegin ∧ t = .GroupBegin ∨
    cc = .GroupEnd ∧ t = .GroupEnd ∨ cc = .BracketBegin ∧ t = .BracketBegin ∨
    cc = .BracketEnd ∧ t = .BracketEnd := by
  cases cc <;> cases h <;> simp

/-- `Emits k prev rest n c`: tokenizer `k`, with `prev` before the cursor and `rest` after it,
returns a token of `n` characters and category `c`.  (The category of the previous token plays
no role: see `tcValue_ne_ccComment`.) -/
inductive Emits : TkName → Option Ch → Str → Nat → TC → Prop
  | escaped {prev c0 c1 r} : catOf c0 = .Escape → isEscapable (catOf c1) = true →
      Emits .escapedSymbols prev (c0 :: c1 :: r) 2 .EscapedComment
  | comment {prev c0 r} : catOf c0 = .Comment →
      Emits .comment prev (c0 :: r) (1 + countWhile (fun c => catOf c != .EndOfLine) r) .Comment
  | display {prev c0 c1 r} : catOf c0 = .MathSwitch → catOf c1 = .MathSwitch →
      Emits .mathSymSwitch prev (c0 :: c1 :: r) 2 .DisplayMathSwitch
  | math {prev c0 r} : catOf c0 = .MathSwitch → (∀ c1 ∈ r.head?, catOf c1 ≠ .MathSwitch) →
      Emits .mathSymSwitch prev (c0 :: r) 1 .MathSwitch
  | asym {prev c0 c1 r t} : catOf c0 = .Escape → asymSwitch (catOf c1) = some t →
      Emits .mathAsymSwitch prev (c0 :: c1 :: r) 2 t
  | lineBreak {prev c0 c1 r} : catOf c0 = .Escape → catOf c1 = .Escape →
      Emits .lineBreak prev (c0 :: c1 :: r) 2 .LineBreak
  | spacers {prev rest} : spacerRun rest ≠ 0 →
      (∀ c ∈ (rest.drop (spacerRun rest)).head?, catOf c ≠ .Letter ∧ catOf c ≠ .Other) →
      Emits .spacers prev rest (spacerRun rest) .MergedSpacer
  | symbol {prev c0 r t} : symbolOf (catOf c0) = some t → Emits .symbols prev (c0 :: r) 1 t
  | punctuation {p rest point} : catOf p = .Escape →
      firstMatch Tables.punctuationCommands rest = some point →
      Emits .punctuationCommandName (some p) rest point.length .PunctuationCommandName
  | commandName {p c0 r} : catOf p = .Escape → catOf c0 = .Letter →
      Emits .commandName (some p) (c0 :: r)
        (1 + countWhile (fun c => isLetterCh c || c == 42) r) .CommandName
  | string {prev rest} : countWhile (fun c => !isStringStop (catOf c)) rest ≠ 0 →
      Emits .string prev rest (countWhile (fun c => !isStringStop (catOf c)) rest) .Text

theorem runTk_spec (k : TkName) (pt : Option TC) (prev : Option Ch) (rest : Str) :
    match runTk k pt prev rest with
    | .tok n c => Emits k prev rest n c
    | .skip n => k ≠ .ignore → n = 0 := by
  generalize ho : runTk k pt prev rest = o
  cases k <;> simp only [runTk] at ho
  case ignore => subst ho; exact fun h => absurd rfl h
  all_goals (repeat' split at ho) <;> subst ho <;> try exact fun _ => rfl
  -- the fourteen branches that return a token, in the order of `runTk`
  all_goals simp only [Bool.and_eq_true, Bool.and_true, Bool.or_eq_true, beq_iff_eq, not_or] at *
  · next h => exact .escaped h.1 h.2
  · next h => exact .comment h
  · next h => exact .comment h.1
  · next h0 h1 => exact .display h0 h1
  · next h0 h1 => exact .math h0 (by simpa using h1)
  · next h0 => exact .math h0 (by simp)
  · next h1 h0 => exact .asym h0 h1
  · next h => exact .lineBreak h.1 h.2
  · next heq h1 h2 => exact .spacers h2 (by rw [heq]; simpa using h1)
  · next heq h => exact .spacers h (by rw [heq]; simp)
  · next h => exact .symbol h
  · next h1 h => exact .punctuation h h1
  · next h => exact .commandName h.1 h.2
  · next h => exact .string h

theorem Emits.of_tok {k : TkName} {pt : Option TC} {prev : Option Ch} {rest : Str} {n : Nat}
    {c : TC} (h : runTk k pt prev rest = .tok n c) : Emits k prev rest n c := by
  have := runTk_spec k pt prev rest
  rwa [h] at this

theorem runTk_skip_zero {k : TkName} {pt : Option TC} {prev : Option Ch} {rest : Str} {n : Nat}
    (hk : k ≠ .ignore) (h : runTk k pt prev rest = .skip n) : n = 0 := by
  have := runTk_spec k pt prev rest
  rw [h] at this
  exact this hk

theorem Emits.bounds {k : TkName} {prev : Option Ch} {rest : Str} {n : Nat} {c : TC}
    (h : Emits k prev rest n c) : 0 < n ∧ n ≤ rest.length := by
  cases h with
  | @comment _ _ r _ =>
    have := countWhile_le (fun c => catOf c != .EndOfLine) r
    simp only [List.length_cons]; omega
  | @commandName _ _ r _ _ =>
    have := countWhile_le (fun c => isLetterCh c || c == 42) r
    simp only [List.length_cons]; omega
  | spacers h0 => exact ⟨Nat.pos_of_ne_zero h0, spacerRun_le _⟩
  | string h0 => exact ⟨Nat.pos_of_ne_zero h0, countWhile_le _ _⟩
  | punctuation _ hfm =>
    have ⟨hm, hp⟩ := firstMatch_some hfm
    exact ⟨List.length_pos_iff.2 (punctuationCommands_nonempty _ hm), isPrefix_length_le hp⟩
  | _ => simp

theorem runTk_skip {k : TkName} {pt : Option TC} {prev : Option Ch} {rest : Str} {n : Nat}
    (h : runTk k pt prev rest = .skip n) :
    n ≤ rest.length ∧ ∀ c ∈ rest.take n, isIgnored (catOf c) = true := by
  by_cases hk : k = .ignore
  · subst hk
    cases h
    exact ⟨countWhile_le _ _, fun c hc => mem_take_countWhile hc⟩
  · rw [runTk_skip_zero hk h]
    simp

end TexSoup
