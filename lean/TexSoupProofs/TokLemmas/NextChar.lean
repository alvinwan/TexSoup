import TexSoupProofs.TokLemmas.SepFacts
/-!
# A token's condition looks at the text behind it only through its first character

`TokOK prev t w` stays true when `w` is replaced by a text with the same first character
(`TokOK.of_head`), provided a command-name token is no bare *sizing prefix* (`\left`, `\big` …:
followed by its delimiter it would be one sizing-command token). The token lists that differ from
a separated one by dropped spacers, other names or other texts are separated for this reason.
-/
namespace TexSoup

theorem flat_head_cons (u : Tok) (r : List Tok) (h : u.text ≠ []) :
    (flat (u :: r)).head? = u.text.head? := by
  cases ht : u.text with
  | nil => exact absurd ht h
  | cons c b => simp [flat, ht]

theorem countWhile_head_congr {p : Ch → Bool} : ∀ (a w w' : Str), countWhile p (a ++ w) ≤ a.length →
    w'.head? = w.head? → countWhile p (a ++ w') = countWhile p (a ++ w) := by
  intro a
  induction a with
  | nil =>
    intro w w' h hh
    simp only [List.nil_append, List.length_nil, Nat.le_zero_eq] at h ⊢
    cases w with
    | nil => cases w' with
      | nil => rfl
      | cons c r => cases hh
    | cons c r =>
      cases w' with
      | nil => cases hh
      | cons c' r' =>
        simp only [List.head?_cons, Option.some.injEq] at hh
        subst hh
        have hc := countWhile_cons_eq_zero h
        rw [h, countWhile_cons_neg hc]
  | cons x a ih =>
    intro w w' h hh
    simp only [List.cons_append, List.length_cons] at h ⊢
    by_cases hx : p x = true
    · rw [countWhile_cons_pos hx] at h ⊢
      rw [countWhile_cons_pos hx, ih w w' (by omega) hh]
    · have hx' : p x = false := by simpa using hx
      rw [countWhile_cons_neg hx', countWhile_cons_neg hx']

theorem spacerRun_head_congr (a w w' : Str) (h : spacerRun (a ++ w) = a.length)
    (hh : w'.head? = w.head?) : spacerRun (a ++ w') = a.length := by
  induction a with
  | nil =>
    cases w' with
    | nil => rfl
    | cons c r' =>
      cases w with
      | nil => cases hh
      | cons c2 r =>
        cases hh
        simp only [List.nil_append, spacerRun_cons, List.length_nil] at h ⊢
        split at h
        · omega
        · split at h
          · omega
          · rename_i h1 h2; simp [h1, h2]
  | cons x a ih =>
    simp only [List.cons_append, spacerRun_cons, List.length_cons] at h ⊢
    split at h
    · rename_i hx; rw [if_pos hx, ih (by omega)]
    · rename_i hx
      split at h
      · rename_i he
        rw [if_neg hx, if_pos he, countWhile_head_congr a w w' (by omega) hh]; exact h
      · omega

/-- letters and `*`: what a command name consists of -/
def nameCh (c : Ch) : Bool := isLetterCh c || c == 42

theorem punctuationCommands_split : ∀ p ∈ Tables.punctuationCommands,
    ∃ A ∈ Tables.sizePrefix, ∃ D, p = A ++ D ∧ (∀ c ∈ A, nameCh c = true) ∧
      ∃ d D', D = d :: D' ∧ nameCh d = false := by
  have key : Tables.punctuationCommands.all (fun p => Tables.sizePrefix.any fun A =>
      isPrefix A p && A.all nameCh && (match p.drop A.length with
        | d :: _ => !nameCh d
        | [] => false)) = true := by decide +kernel
  intro p hp
  rw [List.all_eq_true] at key
  have := key p hp
  rw [List.any_eq_true] at this
  obtain ⟨A, hA, h⟩ := this
  simp only [Bool.and_eq_true, List.all_eq_true] at h
  obtain ⟨⟨h1, h2⟩, h3⟩ := h
  have hsplit : p = A ++ p.drop A.length := by
    clear h2 h3 hA hp key
    induction A generalizing p with
    | nil => simp
    | cons a A ih =>
      cases p with
      | nil => simp [isPrefix] at h1
      | cons b p =>
        simp only [isPrefix, Bool.and_eq_true, beq_iff_eq] at h1
        simp only [List.length_cons, List.drop_succ_cons, List.cons_append, List.cons.injEq]
        exact ⟨h1.1.symm, ih p h1.2⟩
  refine ⟨A, hA, p.drop A.length, hsplit, h2, ?_⟩
  cases hd : p.drop A.length with
  | nil => rw [hd] at h3; cases h3
  | cons d D' => rw [hd] at h3; exact ⟨d, D', rfl, by simpa using h3⟩

theorem isPrefix_name_split : ∀ (A L D w : Str), (∀ c ∈ A, nameCh c = true) → (∀ c ∈ L, nameCh c = true) →
    (∃ d D', D = d :: D' ∧ nameCh d = false) → (∀ c ∈ w.head?, nameCh c = false) →
    isPrefix (A ++ D) (L ++ w) = true → A = L := by
  intro A
  induction A with
  | nil =>
    intro L D w _ hL hD _ h
    obtain ⟨d, D', rfl, hd⟩ := hD
    cases L with
    | nil => rfl
    | cons l L' =>
      simp only [List.nil_append, List.cons_append, isPrefix, Bool.and_eq_true, beq_iff_eq] at h
      have := hL l (by simp)
      rw [← h.1, hd] at this; cases this
  | cons a A ih =>
    intro L D w hA hL hD hw h
    cases L with
    | nil =>
      cases w with
      | nil => simp [isPrefix] at h
      | cons c r =>
        simp only [List.cons_append, List.nil_append, isPrefix, Bool.and_eq_true, beq_iff_eq] at h
        have h1 := hA a (by simp)
        have h2 := hw c rfl
        rw [h.1, h2] at h1; cases h1
    | cons l L' =>
      simp only [List.cons_append, isPrefix, Bool.and_eq_true, beq_iff_eq] at h
      rw [h.1, ih L' D w (fun c hc => hA c (by simp [hc])) (fun c hc => hL c (by simp [hc])) hD hw h.2]

theorem firstMatch_none_of_not_sizing {L w : Str} (hL : ∀ c ∈ L, nameCh c = true)
    (hw : ∀ c ∈ w.head?, nameCh c = false) (hns : L ∉ Tables.sizePrefix) :
    firstMatch Tables.punctuationCommands (L ++ w) = none := by
  rw [firstMatch_none]
  intro p hp
  obtain ⟨A, hA, D, rfl, hAl, hD⟩ := punctuationCommands_split p hp
  cases h : isPrefix (A ++ D) (L ++ w) with
  | false => rfl
  | true => exact absurd (isPrefix_name_split A L D w hAl hL hD hw h ▸ hA) hns

theorem commandName_chars {prev : Option Ch} {t : Tok} {w : Str} (hc : t.cat = .CommandName)
    (h : TokOK prev t w) : (∀ c ∈ t.text, nameCh c = true) ∧ ∀ c ∈ w.head?, nameCh c = false := by
  unfold TokOK at h
  rw [hc] at h
  obtain ⟨_, hm, hw, _⟩ := h
  obtain ⟨c0, body, ht, h0, hb⟩ := txtMany_iff.1 hm
  refine ⟨?_, hw⟩
  rw [ht]
  intro c hcm
  rcases List.mem_cons.1 hcm with rfl | hcm
  · simp [nameCh, isLetterCh, h0]
  · exact hb c hcm

theorem TokOK.of_head {prev : Option Ch} {t : Tok} {w w' : Str} (h : TokOK prev t w)
    (hh : w'.head? = w.head?) (hns : t.cat = .CommandName → t.text ∉ Tables.sizePrefix) :
    TokOK prev t w' := by
  refine h.congr rfl hh (fun hc => ?_) (fun hc => ?_)
  · have hrun : spacerRun (t.text ++ w) = t.text.length := by
      unfold TokOK at h
      rw [hc] at h
      exact h.2.1
    rw [hrun, spacerRun_head_congr _ w w' hrun hh]
  · obtain ⟨hL, hw⟩ := commandName_chars hc h
    rw [firstMatch_none_of_not_sizing hL (by rw [hh]; exact hw) (hns hc),
      firstMatch_none_of_not_sizing hL hw (hns hc)]

end TexSoup
