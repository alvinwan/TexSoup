import TexSoupProofs.TokLemmas.Shaped
/-!
# A `MergedSpacer` token consists of whitespace only

The one kind of token the reader may drop. The proof depends on the generated category table:
every character filed under `Spacer` or `EndOfLine` must satisfy `str.isspace()`. If an edit to
`CATEGORY_CODES` puts a non-blank character (say `~`) under `Spacer`, the table lemma below stops
compiling.
-/
namespace TexSoup

theorem spacer_chars_are_whitespace :
    ∀ e ∈ Tables.catTable, (e.2 = CC.Spacer ∨ e.2 = CC.EndOfLine) → isSpaceCh e.1 = true := by
  decide +kernel

theorem isSpaceCh_of_spacer {c : Ch} (h : catOf c = .Spacer ∨ catOf c = .EndOfLine) :
    isSpaceCh c = true := by
  rcases h with h | h
  · exact spacer_chars_are_whitespace _ (mem_catTable_of_catOf h (by decide)) (.inl rfl)
  · exact spacer_chars_are_whitespace _ (mem_catTable_of_catOf h (by decide)) (.inr rfl)

theorem spacerRun_chars (rest : Str) : ∀ c ∈ rest.take (spacerRun rest),
    catOf c = .Spacer ∨ catOf c = .EndOfLine := by
  induction rest with
  | nil => simp
  | cons x r ih =>
    rw [spacerRun_cons]
    intro c hc
    split at hc
    · rename_i hx
      rcases List.mem_cons.1 hc with rfl | hc
      · exact .inl (by simpa [isSpacerCh] using hx)
      · exact ih c hc
    · split at hc
      · rename_i he
        rcases List.mem_cons.1 hc with rfl | hc
        · exact .inr (by simpa using he)
        · exact .inl (by simpa [isSpacerCh] using mem_take_countWhile hc)
      · simp at hc

theorem Emits.mergedSpacer {k : TkName} {prev : Option Ch} {rest : Str} {n : Nat}
    (h : Emits k prev rest n .MergedSpacer) : n = spacerRun rest := by
  generalize hc : TC.MergedSpacer = c at h
  cases h with
  | spacers => rfl
  | asym _ ha => subst hc; rcases asymSwitch_eq_some ha with ⟨_, h⟩ | ⟨_, h⟩ | ⟨_, h⟩ | ⟨_, h⟩ <;> cases h
  | symbol hs =>
    subst hc; rcases symbolOf_eq_some hs with ⟨_, h⟩ | ⟨_, h⟩ | ⟨_, h⟩ | ⟨_, h⟩ | ⟨_, h⟩ <;> cases h
  | _ => cases hc

theorem pass_spacer_ws {ks : List TkName} {pt : Option TC} {st st' : TSt} {t : Tok}
    (h : pass ks pt st = .tok t st') (hc : t.cat = .MergedSpacer) : ∀ c ∈ t.text, isSpaceCh c = true := by
  obtain ⟨_, _, _, rest, n, he, ht⟩ := pass_tok_emits h
  rw [hc] at he
  rw [ht, he.mergedSpacer]
  exact fun x hx => isSpaceCh_of_spacer (spacerRun_chars _ x hx)

theorem tokens_spacer_whitespace {s : Str} {ts : List Tok} (h : tokenize s = some ts) :
    ∀ t ∈ ts, t.cat = .MergedSpacer → ∀ c ∈ t.text, isSpaceCh c = true :=
  tokLoop_forall (P := fun t => t.cat = .MergedSpacer → ∀ c ∈ t.text, isSpaceCh c = true)
    (fun _ _ _ _ hp hc => pass_spacer_ws hp hc) _ _ _ h

end TexSoup
