import TexSoupProofs.TokLemmas.RunTk
/-!
# One `next_token` pass, the `tokenize` loop, and the token chain it produces

`TokChain pos rest ts` is the loop invariant in closed form: starting at offset `pos` with
remaining input `rest`, the tokens `ts` are laid out one after the other, separated only by
ignored characters, each at its recorded offset.
-/
namespace TexSoup

abbrev AllIgnored (l : Str) : Prop := ∀ c ∈ l, isIgnored (catOf c) = true

abbrev NoIgnored (l : Str) : Prop := ∀ c ∈ l, isIgnored (catOf c) = false

theorem pass_tok {ks : List TkName} {pt : Option TC} {st st' : TSt} {t : Tok}
    (h : pass ks pt st = .tok t st') :
    ∃ ign, AllIgnored ign ∧ st.rest = ign ++ (t.text ++ st'.rest) ∧ t.text ≠ [] ∧
      t.pos = st.pos + ign.length ∧ st'.pos = t.pos + t.text.length := by
  induction ks generalizing st with
  | nil => simp [pass] at h
  | cons k ks ih =>
    simp only [pass] at h
    split at h
    · rename_i n c hk
      have ⟨hpos, hle⟩ := (Emits.of_tok hk).bounds
      cases h
      refine ⟨[], by simp [AllIgnored], ?_, ?_, by simp, rfl⟩
      · simp [TSt.adv]
      · intro he
        have := congrArg List.length he
        simp only [List.length_take, List.length_nil] at this; omega
    · rename_i n hk
      have ⟨hle, hign⟩ := runTk_skip hk
      split at h
      · cases h
      · obtain ⟨ign, hi, hr, hne, hp, hp'⟩ := ih h
        refine ⟨st.rest.take n ++ ign, ?_, ?_, hne, ?_, hp'⟩
        · intro c hc
          rcases List.mem_append.1 hc with hc | hc
          · exact hign c hc
          · exact hi c hc
        · rw [List.append_assoc, ← hr, TSt.adv_rest, List.take_append_drop]
        · rw [hp, TSt.adv_pos, List.length_append]; omega

theorem pass_tok_emits {ks : List TkName} {pt : Option TC} {st st' : TSt} {t : Tok}
    (h : pass ks pt st = .tok t st') :
    ∃ k ∈ ks, ∃ prev rest n, Emits k prev rest n t.cat ∧ t.text = rest.take n := by
  induction ks generalizing st with
  | nil => simp [pass] at h
  | cons k ks ih =>
    simp only [pass] at h
    split at h
    · rename_i n c hk
      cases h
      exact ⟨k, by simp, _, _, n, Emits.of_tok hk, rfl⟩
    · split at h
      · cases h
      · obtain ⟨k', hk', r⟩ := ih h
        exact ⟨k', by simp [hk'], r⟩

theorem pass_none {ks : List TkName} {pt : Option TC} {st st' : TSt}
    (h : pass ks pt st = .none st') :
    ∃ ign, AllIgnored ign ∧ st.rest = ign ++ st'.rest ∧ st'.pos = st.pos + ign.length := by
  induction ks generalizing st with
  | nil => simp only [pass] at h; cases h; exact ⟨[], by simp [AllIgnored], by simp, by simp⟩
  | cons k ks ih =>
    simp only [pass] at h
    split at h
    · cases h
    · rename_i n hk
      have ⟨hle, hign⟩ := runTk_skip hk
      have key : ∀ st'' : TSt, (∃ ign, AllIgnored ign ∧ (st.adv n).rest = ign ++ st''.rest ∧
            st''.pos = (st.adv n).pos + ign.length) →
          ∃ ign, AllIgnored ign ∧ st.rest = ign ++ st''.rest ∧ st''.pos = st.pos + ign.length := by
        rintro st'' ⟨ign, hi, hr, hp⟩
        refine ⟨st.rest.take n ++ ign, ?_, ?_, ?_⟩
        · intro c hc
          rcases List.mem_append.1 hc with hc | hc
          · exact hign c hc
          · exact hi c hc
        · rw [List.append_assoc, ← hr, TSt.adv_rest, List.take_append_drop]
        · rw [hp, TSt.adv_pos, List.length_append]; omega
      split at h
      · cases h
        exact key _ ⟨[], by simp [AllIgnored], by simp, by simp⟩
      · exact key _ (ih h)

theorem pass_none_stall {ks : List TkName} {pt : Option TC} {st st' : TSt}
    (h : pass ks pt st = .none st') (hlen : st.rest.length ≤ st'.rest.length)
    (hne : st.rest ≠ []) : ∀ k ∈ ks, runTk k pt st.prev st.rest = .skip 0 := by
  induction ks generalizing st with
  | nil => simp
  | cons k ks ih =>
    simp only [pass] at h
    split at h
    · cases h
    · rename_i n hk
      have ⟨hle, _⟩ := runTk_skip hk
      have hn : n = 0 := by
        split at h
        · rename_i he
          cases h
          simp only [TSt.adv_rest, List.length_drop] at hlen
          have : 0 < st.rest.length := List.length_pos_iff.2 hne
          omega
        · obtain ⟨ign, _, hr, _⟩ := pass_none h
          have := congrArg List.length hr
          simp only [TSt.adv_rest, List.length_drop, List.length_append] at this
          omega
      subst hn
      simp only [TSt.adv_zero] at h
      split at h
      · rename_i he
        simp only [List.isEmpty_iff] at he
        exact absurd he hne
      · intro k' hk'
        rcases List.mem_cons.1 hk' with rfl | hk'
        · exact hk
        · exact ih h hlen hne k' hk'

/-- With the registered tokenizers, some tokenizer always reacts to a non-empty input:
a stop character of `string` is claimed by `symbols`, `math_sym_switch` or `comment`, and an
ignored character by `ignore`.  (Depends on the generated table only through membership.) -/
theorem no_stall (pt : Option TC) (prev : Option Ch) {rest : Str} (hne : rest ≠ []) :
    ¬ ∀ k ∈ Tables.tokenizerOrder, runTk k pt prev rest = .skip 0 := by
  intro hall
  obtain ⟨c, r, rfl⟩ := List.exists_cons_of_ne_nil hne
  have hstr := hall .string (by decide)
  have hsym := hall .symbols (by decide)
  have hmath := hall .mathSymSwitch (by decide)
  have hcom := hall .comment (by decide)
  rw [runTk_comment] at hcom
  simp only [runTk] at hstr hsym hmath
  have hstop : isStringStop (catOf c) = true := by
    by_cases h0 : countWhile (fun c => !isStringStop (catOf c)) (c :: r) = 0
    · have := countWhile_cons_eq_zero h0
      simpa using this
    · simp [h0] at hstr
  cases hc : catOf c <;> simp [hc, isStringStop, symbolOf] at hstop hsym hmath hcom
  · (repeat' split at hmath) <;> cases hmath

theorem pass_none_progress {pt : Option TC} {st st' : TSt} (hne : st.rest ≠ [])
    (h : pass Tables.tokenizerOrder pt st = .none st') : st'.rest.length < st.rest.length := by
  apply Nat.lt_of_not_le
  intro hle
  exact no_stall pt st.prev hne (pass_none_stall h hle hne)

theorem pass_tok_progress {ks : List TkName} {pt : Option TC} {st st' : TSt} {t : Tok}
    (h : pass ks pt st = .tok t st') : st'.rest.length < st.rest.length := by
  obtain ⟨ign, _, hr, hne, _, _⟩ := pass_tok h
  have := congrArg List.length hr
  have : 0 < t.text.length := List.length_pos_iff.2 hne
  simp only [List.length_append] at *
  omega

theorem tokLoop_total (f : Nat) (pt : Option TC) (st : TSt) (h : st.rest.length < f) :
    ∃ ts, tokLoop f pt st = some ts := by
  induction f generalizing pt st with
  | zero => omega
  | succ f ih =>
    simp only [tokLoop]
    split
    · exact ⟨[], rfl⟩
    · rename_i he
      have hne : st.rest ≠ [] := by simpa using he
      split
      · rename_i t st' hp
        have := pass_tok_progress hp
        obtain ⟨ts, hts⟩ := ih (some t.cat) st' (by omega)
        exact ⟨t :: ts, by simp [hts]⟩
      · rename_i st' hp
        have := pass_none_progress hne hp
        exact ih pt st' (by omega)

theorem tokLoop_forall {P : Tok → Prop}
    (hP : ∀ pt st t st', pass Tables.tokenizerOrder pt st = .tok t st' → P t)
    (f : Nat) (pt : Option TC) (st : TSt) {ts : List Tok} (h : tokLoop f pt st = some ts) :
    ∀ t ∈ ts, P t := by
  induction f generalizing pt st ts with
  | zero => simp [tokLoop] at h
  | succ f ih =>
    simp only [tokLoop] at h
    split at h
    · cases h; simp
    · split at h
      · rename_i t st' hp
        cases hl : tokLoop f (some t.cat) st' with
        | none => simp [hl] at h
        | some ts' =>
          simp only [hl, Option.map_some, Option.some.injEq] at h
          subst h
          intro t' ht'
          rcases List.mem_cons.1 ht' with rfl | ht'
          · exact hP _ _ _ _ hp
          · exact ih _ _ hl t' ht'
      · exact ih _ _ h

inductive TokChain : Nat → Str → List Tok → Prop
  | done (pos : Nat) (ign : Str) : AllIgnored ign → TokChain pos ign []
  | cons (pos : Nat) (ign : Str) (t : Tok) (rest : Str) (ts : List Tok) :
      AllIgnored ign → t.text ≠ [] → t.pos = pos + ign.length →
      TokChain (t.pos + t.text.length) rest ts →
      TokChain pos (ign ++ (t.text ++ rest)) (t :: ts)

theorem TokChain.prepend {pos : Nat} {ign rest : Str} {ts : List Tok} (hi : AllIgnored ign)
    (h : TokChain (pos + ign.length) rest ts) : TokChain pos (ign ++ rest) ts := by
  have hall : ∀ ign', AllIgnored ign' → AllIgnored (ign ++ ign') := by
    intro ign' hi' c hc
    rcases List.mem_append.1 hc with hc | hc
    · exact hi c hc
    · exact hi' c hc
  cases h with
  | done _ ign' hi' => exact .done _ _ (hall _ hi')
  | cons _ ign' t rest' ts' hi' hne hp hc =>
    rw [← List.append_assoc]
    exact .cons _ _ _ _ _ (hall _ hi') hne (by rw [hp, List.length_append]; omega) hc

theorem tokLoop_chain (f : Nat) (pt : Option TC) (st : TSt) {ts : List Tok}
    (h : tokLoop f pt st = some ts) : TokChain st.pos st.rest ts := by
  induction f generalizing pt st ts with
  | zero => simp [tokLoop] at h
  | succ f ih =>
    simp only [tokLoop] at h
    split at h
    · rename_i he
      cases h
      have : st.rest = [] := by simpa using he
      rw [this]
      exact .done _ _ (by simp [AllIgnored])
    · split at h
      · rename_i t st' hp
        obtain ⟨ign, hi, hr, hne, hpos, hpos'⟩ := pass_tok hp
        cases hl : tokLoop f (some t.cat) st' with
        | none => simp [hl] at h
        | some ts' =>
          simp only [hl, Option.map_some, Option.some.injEq] at h
          subst h
          rw [hr]
          exact .cons _ _ _ _ _ hi hne hpos (hpos' ▸ ih _ _ hl)
      · rename_i st' hp
        obtain ⟨ign, hi, hr, hpos⟩ := pass_none hp
        rw [hr]
        exact TokChain.prepend hi (hpos ▸ ih _ _ h)

theorem TokChain.erased {pos : Nat} {rest : Str} {ts : List Tok} (h : TokChain pos rest ts) :
    Erased rest (flat ts) := by
  induction h with
  | done _ ign hi => exact Erased.of_ignored hi
  | cons _ ign t rest ts hi _ _ _ ih =>
    have h1 : Erased ign [] := Erased.of_ignored hi
    have := h1.append ((Erased.refl t.text).append ih)
    simpa [flat] using this

theorem TokChain.nonempty {pos : Nat} {rest : Str} {ts : List Tok} (h : TokChain pos rest ts) :
    ∀ t ∈ ts, t.text ≠ [] := by
  induction h with
  | done => simp
  | cons _ ign t rest ts _ hne _ _ ih =>
    intro t' ht'
    rcases List.mem_cons.1 ht' with rfl | ht'
    · exact hne
    · exact ih t' ht'

theorem TokChain.slice {pos : Nat} {rest : Str} {ts : List Tok} (h : TokChain pos rest ts) :
    ∀ pre : Str, pre.length = pos →
      ∀ t ∈ ts, t.text = ((pre ++ rest).drop t.pos).take t.text.length := by
  induction h with
  | done => simp
  | cons pos ign t rest ts _ hne hp _ ih =>
    intro pre hpre t' ht'
    rcases List.mem_cons.1 ht' with rfl | ht'
    · have : pre ++ (ign ++ (t'.text ++ rest)) = (pre ++ ign) ++ (t'.text ++ rest) := by simp
      rw [this, List.drop_left' (by rw [hp, List.length_append, hpre])]
      simp
    · have := ih (pre ++ (ign ++ t.text)) (by simp [hp, hpre]; omega) t' ht'
      simpa using this

theorem TokChain.ordered {pos : Nat} {rest : Str} {ts : List Tok} (h : TokChain pos rest ts) :
    (∀ t ∈ ts, pos ≤ t.pos) ∧ ts.Pairwise (fun a b => a.pos + a.text.length ≤ b.pos) := by
  induction h with
  | done => simp
  | cons pos ign t rest ts _ hne hp _ ih =>
    refine ⟨?_, ?_⟩
    · intro t' ht'
      rcases List.mem_cons.1 ht' with rfl | ht'
      · omega
      · have := ih.1 t' ht'; omega
    · exact List.pairwise_cons.2 ⟨fun t' ht' => ih.1 t' ht', ih.2⟩

theorem TokChain.bounded {pos : Nat} {rest : Str} {ts : List Tok} (h : TokChain pos rest ts) :
    ∀ t ∈ ts, t.pos + t.text.length ≤ pos + rest.length := by
  induction h with
  | done => simp
  | cons pos ign t rest ts _ hne hp _ ih =>
    intro t' ht'
    simp only [List.length_append]
    rcases List.mem_cons.1 ht' with rfl | ht'
    · omega
    · have := ih t' ht'; omega

theorem tokenize_chain {s : Str} {ts : List Tok} (h : tokenize s = some ts) : TokChain 0 s ts :=
  tokLoop_chain _ _ _ h

end TexSoup
