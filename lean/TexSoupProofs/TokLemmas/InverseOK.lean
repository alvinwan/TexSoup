import TexSoupProofs.TokLemmas.InverseFirst
/-!
# Tokenizer inverse, part 2: `TokOK`, `Separated`, and `tokenize (flat ts) = ts`

`TokOK prev t w` is the local condition – by category of `t` – under which a pass of
`next_token` on `t.text ++ w`, with `prev` the character before the cursor, returns exactly
the token `t` and leaves `w`.  `Separated` chains it along a token list.
-/
namespace TexSoup

/-! Shapes of token texts: decidable replacements for `∃ c, text = [c] ∧ …`. -/

/-- `text = [c]` with `P c`. -/
def TxtOne (P : Ch → Prop) : Str → Prop
  | [c] => P c
  | _ => False

/-- `text = [a, b]` with `P a b`. -/
def TxtTwo (P : Ch → Ch → Prop) : Str → Prop
  | [a, b] => P a b
  | _ => False

/-- `text = c :: r` with `P c r`. -/
def TxtMany (P : Ch → Str → Prop) : Str → Prop
  | c :: r => P c r
  | [] => False

theorem txtOne_iff {P : Ch → Prop} {text : Str} : TxtOne P text ↔ ∃ c, text = [c] ∧ P c := by
  unfold TxtOne
  split
  · simp
  · rename_i h
    constructor
    · exact False.elim
    · rintro ⟨c, rfl, _⟩; exact h c rfl

theorem txtTwo_iff {P : Ch → Ch → Prop} {text : Str} :
    TxtTwo P text ↔ ∃ a b, text = [a, b] ∧ P a b := by
  unfold TxtTwo
  split
  · rename_i a b
    exact ⟨fun h => ⟨a, b, rfl, h⟩, fun ⟨_, _, he, h⟩ => by cases he; exact h⟩
  · rename_i h
    constructor
    · exact False.elim
    · rintro ⟨a, b, rfl, _⟩; exact h a b rfl

theorem txtMany_iff {P : Ch → Str → Prop} {text : Str} :
    TxtMany P text ↔ ∃ c r, text = c :: r ∧ P c r := by
  cases text with
  | nil => simp [TxtMany]
  | cons c r =>
    exact ⟨fun h => ⟨c, r, rfl, h⟩, fun ⟨_, _, he, h⟩ => by cases he; exact h⟩

instance {P : Ch → Prop} [DecidablePred P] (text : Str) : Decidable (TxtOne P text) := by
  unfold TxtOne; split <;> infer_instance

instance {P : Ch → Ch → Prop} [∀ a b, Decidable (P a b)] (text : Str) : Decidable (TxtTwo P text) := by
  unfold TxtTwo; split <;> infer_instance

instance {P : Ch → Str → Prop} [∀ a b, Decidable (P a b)] (text : Str) :
    Decidable (TxtMany P text) := by
  unfold TxtMany; split <;> infer_instance

/-- `TokOK'` on text and category (positions play no role). -/
def TokOK' (prev : Option Ch) (text : Str) (cat : TC) (w : Str) : Prop :=
  match cat with
  | .Escape => TxtOne (fun c0 => catOf c0 = .Escape ∧
      ∀ c1 ∈ w.head?, isEscapable (catOf c1) = false ∧ asymSwitch (catOf c1) = none) text
  | .GroupBegin => TxtOne (fun c0 => catOf c0 = .GroupBegin) text
  | .GroupEnd => TxtOne (fun c0 => catOf c0 = .GroupEnd) text
  | .BracketBegin => TxtOne (fun c0 => catOf c0 = .BracketBegin) text
  | .BracketEnd => TxtOne (fun c0 => catOf c0 = .BracketEnd) text
  | .MathSwitch => TxtOne (fun c0 => catOf c0 = .MathSwitch ∧
      ∀ c1 ∈ w.head?, catOf c1 ≠ .MathSwitch) text
  | .DisplayMathSwitch => TxtTwo (fun c0 c1 => catOf c0 = .MathSwitch ∧ catOf c1 = .MathSwitch) text
  | .EscapedComment => TxtTwo (fun c0 c1 => catOf c0 = .Escape ∧ isEscapable (catOf c1) = true) text
  | .MathGroupBegin => TxtTwo (fun c0 c1 => catOf c0 = .Escape ∧ catOf c1 = .ParenBegin) text
  | .MathGroupEnd => TxtTwo (fun c0 c1 => catOf c0 = .Escape ∧ catOf c1 = .ParenEnd) text
  | .DisplayMathGroupBegin =>
      TxtTwo (fun c0 c1 => catOf c0 = .Escape ∧ catOf c1 = .BracketBegin) text
  | .DisplayMathGroupEnd => TxtTwo (fun c0 c1 => catOf c0 = .Escape ∧ catOf c1 = .BracketEnd) text
  | .Comment => TxtMany (fun c0 body => catOf c0 = .Comment ∧ (∀ c ∈ body, catOf c ≠ .EndOfLine) ∧
      ∀ c ∈ w.head?, catOf c = .EndOfLine) text
  | .MergedSpacer => text ≠ [] ∧ spacerRun (text ++ w) = text.length ∧
      ∀ c ∈ w.head?, catOf c ≠ .Letter ∧ catOf c ≠ .Other
  | .PunctuationCommandName => prevEsc prev = true ∧ text ∈ Tables.punctuationCommands
  | .CommandName => prevEsc prev = true ∧
      TxtMany (fun c0 body => catOf c0 = .Letter ∧
        ∀ c ∈ body, (isLetterCh c || c == 42) = true) text ∧
      (∀ c ∈ w.head?, (isLetterCh c || c == 42) = false) ∧
      firstMatch Tables.punctuationCommands (text ++ w) = none
  | .Text => TxtMany (fun c0 _ => isIgnored (catOf c0) = false ∧
        (prevEsc prev = true → catOf c0 ≠ .Letter)) text ∧
      (∀ c ∈ text, isStringStop (catOf c) = false) ∧ textSpacerOK text = true ∧
      ∀ c ∈ w.head?, isStringStop (catOf c) = true
  | _ => False

instance (prev : Option Ch) (text : Str) (cat : TC) (w : Str) :
    Decidable (TokOK' prev text cat w) := by
  unfold TokOK'; split <;> infer_instance

/-- The local separation condition for token `t` with `prev` before it and `w` after it. -/
def TokOK (prev : Option Ch) (t : Tok) (w : Str) : Prop := TokOK' prev t.text t.cat w

instance (prev : Option Ch) (t : Tok) (w : Str) : Decidable (TokOK prev t w) := by
  unfold TokOK; infer_instance

/-- What the category of a token says about the category of its first character and about
the character before the token. -/
def HeadCat (prev : Option Ch) (cc : CC) : TC → Prop
  | .Escape | .EscapedComment | .MathGroupBegin | .MathGroupEnd | .DisplayMathGroupBegin
  | .DisplayMathGroupEnd => cc = .Escape
  | .GroupBegin => cc = .GroupBegin
  | .GroupEnd => cc = .GroupEnd
  | .BracketBegin => cc = .BracketBegin
  | .BracketEnd => cc = .BracketEnd
  | .MathSwitch | .DisplayMathSwitch => cc = .MathSwitch
  | .Comment => cc = .Comment
  | .MergedSpacer => cc = .Spacer ∨ cc = .EndOfLine
  | .CommandName | .PunctuationCommandName => cc = .Letter ∧ prevEsc prev = true
  | .Text => isStringStop cc = false ∧ isIgnored cc = false ∧ (prevEsc prev = true → cc ≠ .Letter)
  | _ => False

theorem TokOK.head {prev : Option Ch} {t : Tok} {w : Str} (h : TokOK prev t w) :
    ∃ c0 r, t.text = c0 :: r ∧ HeadCat prev (catOf c0) t.cat := by
  obtain ⟨text, _, cat⟩ := t
  cases cat <;> simp only [TokOK, TokOK'] at h
  case MergedSpacer =>
    obtain ⟨hne, hrun, _⟩ := h
    obtain ⟨c0, r, rfl⟩ := List.exists_cons_of_ne_nil hne
    refine ⟨c0, r, rfl, ?_⟩
    by_cases h1 : catOf c0 = .Spacer
    · exact .inl h1
    · by_cases h2 : catOf c0 = .EndOfLine
      · exact .inr h2
      · rw [List.cons_append, spacerRun_zero c0 _ h1 h2] at hrun
        cases hrun
  case PunctuationCommandName =>
    have hh := punctuationCommands_head_letter _ h.2
    cases text with
    | nil => cases hh
    | cons c0 r => exact ⟨c0, r, rfl, by simpa using hh, h.1⟩
  case CommandName =>
    obtain ⟨c0, r, rfl, h0, _⟩ := txtMany_iff.1 h.2.1
    exact ⟨c0, r, rfl, h0, h.1⟩
  case Text =>
    obtain ⟨c0, r, rfl, hi, hl⟩ := txtMany_iff.1 h.1
    exact ⟨c0, r, rfl, h.2.1 c0 (by simp), hi, hl⟩
  -- the delimiters and the comment: the condition on the first character is the first conjunct
  all_goals first
    | (obtain ⟨c0, rfl, h0⟩ := txtOne_iff.1 h; exact ⟨c0, [], rfl, h0.1⟩)
    | (obtain ⟨c0, rfl, h0⟩ := txtOne_iff.1 h; exact ⟨c0, [], rfl, h0⟩)
    | (obtain ⟨c0, c1, rfl, h0, _⟩ := txtTwo_iff.1 h; exact ⟨c0, [c1], rfl, h0⟩)
    | (obtain ⟨c0, r, rfl, h0, _⟩ := txtMany_iff.1 h; exact ⟨c0, r, rfl, h0⟩)
    | exact h.elim

theorem TokOK.nonempty {prev : Option Ch} {t : Tok} {w : Str} (h : TokOK prev t w) :
    t.text ≠ [] := by
  obtain ⟨c0, r, ht, _⟩ := h.head
  simp [ht]

/-- `TokOK` looks at the character before the token only through "is it a backslash", and at
what follows only through its first character – a blank run also through how far the run goes, a
command name through the sizing-command match. -/
theorem TokOK.congr {prev prev' : Option Ch} {t : Tok} {w w' : Str} (h : TokOK prev t w)
    (hp : prevEsc prev' = prevEsc prev) (hh : w'.head? = w.head?)
    (hs : t.cat = .MergedSpacer → spacerRun (t.text ++ w') = spacerRun (t.text ++ w))
    (hf : t.cat = .CommandName → firstMatch Tables.punctuationCommands (t.text ++ w') =
      firstMatch Tables.punctuationCommands (t.text ++ w)) : TokOK prev' t w' := by
  obtain ⟨text, _, cat⟩ := t
  cases cat <;> simp only [TokOK, TokOK'] at h ⊢ <;> first
    | exact h
    | (rw [hh]; exact h)
    | (rw [hp]; exact h)
    | (rw [hh, hs rfl]; exact h)
    | (rw [hp, hh]; exact h)
    | (rw [hp, hh, hf rfl]; exact h)

/-- **Local correctness.**  Under `TokOK prev t w` a pass of `next_token` on `t.text ++ w`, with
`prev` before the cursor, returns exactly `t` (at the current offset) and leaves `w` – for every
category of the previous token and every offset. -/
theorem tokOK_pass (pt : Option TC) (prev : Option Ch) (pos : Nat) {t : Tok} {w : Str}
    (h : TokOK prev t w) :
    pass Tables.tokenizerOrder pt ⟨prev, pos, t.text ++ w⟩ =
      .tok ⟨t.text, pos, t.cat⟩ ⟨lastD t.text prev, pos + t.text.length, w⟩ := by
  obtain ⟨text, _, cat⟩ := t
  cases cat <;> simp only [TokOK, TokOK'] at h ⊢
  case Escape =>
    obtain ⟨c0, rfl, h0, h1⟩ := txtOne_iff.1 h
    exact first_escape pt prev pos c0 w h0 h1
  case GroupBegin =>
    obtain ⟨c0, rfl, h0⟩ := txtOne_iff.1 h
    exact first_symbol pt prev pos c0 w _ (by rw [h0]; decide) (by rw [h0]; rfl)
  case GroupEnd =>
    obtain ⟨c0, rfl, h0⟩ := txtOne_iff.1 h
    exact first_symbol pt prev pos c0 w _ (by rw [h0]; decide) (by rw [h0]; rfl)
  case BracketBegin =>
    obtain ⟨c0, rfl, h0⟩ := txtOne_iff.1 h
    exact first_symbol pt prev pos c0 w _ (by rw [h0]; decide) (by rw [h0]; rfl)
  case BracketEnd =>
    obtain ⟨c0, rfl, h0⟩ := txtOne_iff.1 h
    exact first_symbol pt prev pos c0 w _ (by rw [h0]; decide) (by rw [h0]; rfl)
  case MathSwitch =>
    obtain ⟨c0, rfl, h0, h1⟩ := txtOne_iff.1 h
    exact first_mathSwitch_one pt prev pos c0 w h0 h1
  case DisplayMathSwitch =>
    obtain ⟨c0, c1, rfl, h0, h1⟩ := txtTwo_iff.1 h
    exact first_mathSwitch_two pt prev pos c0 c1 w h0 h1
  case EscapedComment =>
    obtain ⟨c0, c1, rfl, h0, h1⟩ := txtTwo_iff.1 h
    exact first_escaped pt prev pos c0 c1 w h0 h1
  case MathGroupBegin =>
    obtain ⟨c0, c1, rfl, h0, h1⟩ := txtTwo_iff.1 h
    exact first_asymSwitch pt prev pos c0 c1 w _ h0 (by rw [h1]; rfl)
  case MathGroupEnd =>
    obtain ⟨c0, c1, rfl, h0, h1⟩ := txtTwo_iff.1 h
    exact first_asymSwitch pt prev pos c0 c1 w _ h0 (by rw [h1]; rfl)
  case DisplayMathGroupBegin =>
    obtain ⟨c0, c1, rfl, h0, h1⟩ := txtTwo_iff.1 h
    exact first_asymSwitch pt prev pos c0 c1 w _ h0 (by rw [h1]; rfl)
  case DisplayMathGroupEnd =>
    obtain ⟨c0, c1, rfl, h0, h1⟩ := txtTwo_iff.1 h
    exact first_asymSwitch pt prev pos c0 c1 w _ h0 (by rw [h1]; rfl)
  case Comment =>
    obtain ⟨c0, body, rfl, h0, hb, hw⟩ := txtMany_iff.1 h
    have hb' : ∀ x ∈ body, (fun c => catOf c != CC.EndOfLine) x = true := by
      intro x hx; simpa using hb x hx
    have hw' : ∀ c ∈ w.head?, (fun c => catOf c != CC.EndOfLine) c = false := by
      intro c hc; simpa using hw c hc
    rw [List.cons_append, first_comment pt prev pos c0 (body ++ w) h0,
      takeWhile_append_of_head hb' hw', dropWhile_append_of_head hb' hw', lastD_cons,
      List.length_cons, Nat.add_comm 1]
  case MergedSpacer =>
    exact first_spacer pt prev pos w h.1 h.2.1 h.2.2
  case PunctuationCommandName =>
    obtain ⟨p, rfl, hp⟩ := prevEsc_true h.1
    exact first_punctuation pt p pos text w hp h.2
  case CommandName =>
    obtain ⟨hpe, hm, hw, hfm⟩ := h
    obtain ⟨p, rfl, hp⟩ := prevEsc_true hpe
    obtain ⟨c0, body, rfl, h0, hb⟩ := txtMany_iff.1 hm
    rw [List.cons_append] at hfm ⊢
    rw [first_commandName pt p pos c0 (body ++ w) hp h0 hfm,
      takeWhile_append_of_head hb hw, dropWhile_append_of_head hb hw, lastD_cons,
      List.length_cons, Nat.add_comm 1]
  case Text =>
    obtain ⟨hm, hall, hsp, hw⟩ := h
    obtain ⟨c0, body, rfl, hi, hpl⟩ := txtMany_iff.1 hm
    exact first_text pt prev pos w (by simp) hall
      (by intro c hc; cases hc; exact hi) hsp
      (by intro hpe c hc; cases hc; exact hpl hpe) hw
  all_goals exact h.elim

/-- One instance per live category (`w` chosen so that the side conditions are non-trivial). -/
example :
    TokOK none ⟨[92], 0, .Escape⟩ [97] ∧ TokOK none ⟨[123], 0, .GroupBegin⟩ [123] ∧
    TokOK none ⟨[125], 0, .GroupEnd⟩ [] ∧ TokOK none ⟨[91], 0, .BracketBegin⟩ [93] ∧
    TokOK none ⟨[93], 0, .BracketEnd⟩ [32] ∧ TokOK none ⟨[36], 0, .MathSwitch⟩ [120, 36] ∧
    TokOK none ⟨[36, 36], 0, .DisplayMathSwitch⟩ [36] ∧
    TokOK none ⟨[92, 40], 0, .MathGroupBegin⟩ [] ∧ TokOK none ⟨[92, 41], 0, .MathGroupEnd⟩ [] ∧
    TokOK none ⟨[92, 91], 0, .DisplayMathGroupBegin⟩ [] ∧
    TokOK none ⟨[92, 93], 0, .DisplayMathGroupEnd⟩ [] ∧
    TokOK none ⟨[92, 37], 0, .EscapedComment⟩ [37] ∧
    TokOK none ⟨[37, 97, 125], 0, .Comment⟩ [10, 98] ∧
    TokOK none ⟨[32, 10], 0, .MergedSpacer⟩ [123] ∧
    TokOK (some 92) ⟨[98, 102, 42], 0, .CommandName⟩ [123] ∧
    TokOK (some 92) ⟨[108, 101, 102, 116, 40], 0, .PunctuationCommandName⟩ [120] ∧
    TokOK (some 125) ⟨[32, 97, 32], 0, .Text⟩ [36] := by decide +kernel

/-- Every token is `TokOK` in its context: `prev` = last character of what precedes (or the
given one), `w` = the joined texts of what follows. -/
def Separated : Option Ch → List Tok → Prop
  | _, [] => True
  | prev, t :: r => t.text ≠ [] ∧ TokOK prev t (flat r) ∧ Separated (lastD t.text prev) r

instance decSeparated : (prev : Option Ch) → (ts : List Tok) → Decidable (Separated prev ts)
  | _, [] => isTrue trivial
  | prev, t :: r =>
    have := decSeparated (lastD t.text prev) r
    by unfold Separated; infer_instance

/-- Recompute the positions as running offsets starting at `p`. -/
def reposition : Nat → List Tok → List Tok
  | _, [] => []
  | p, t :: r => { t with pos := p } :: reposition (p + t.text.length) r

/-- The positions are the running offsets starting at `p`. -/
def Positioned : Nat → List Tok → Prop
  | _, [] => True
  | p, t :: r => t.pos = p ∧ Positioned (p + t.text.length) r

instance decPositioned : (p : Nat) → (ts : List Tok) → Decidable (Positioned p ts)
  | _, [] => isTrue trivial
  | p, t :: r =>
    have := decPositioned (p + t.text.length) r
    by unfold Positioned; infer_instance

theorem reposition_of_positioned {p : Nat} {ts : List Tok} (h : Positioned p ts) :
    reposition p ts = ts := by
  induction ts generalizing p with
  | nil => rfl
  | cons t r ih =>
    obtain ⟨h1, h2⟩ := h
    simp only [reposition, ih h2]
    cases t; cases h1; rfl

theorem flat_reposition (p : Nat) (ts : List Tok) : flat (reposition p ts) = flat ts := by
  induction ts generalizing p with
  | nil => rfl
  | cons t r ih => simp [reposition, flat, ih]

theorem positioned_reposition (p : Nat) (ts : List Tok) : Positioned p (reposition p ts) := by
  induction ts generalizing p with
  | nil => trivial
  | cons t r ih => exact ⟨rfl, ih _⟩

theorem tokLoop_inverse {ts : List Tok} {prev : Option Ch} (hsep : Separated prev ts)
    (f : Nat) (pt : Option TC) (pos : Nat) (hf : (flat ts).length < f) :
    tokLoop f pt ⟨prev, pos, flat ts⟩ = some (reposition pos ts) := by
  induction ts generalizing prev f pt pos with
  | nil =>
    cases f with
    | zero => omega
    | succ f => simp [tokLoop, flat, reposition]
  | cons t r ih =>
    obtain ⟨hne, hok, hrest⟩ := hsep
    cases f with
    | zero => omega
    | succ f =>
      have he : (t.text ++ flat r).isEmpty = false := by
        cases h : t.text with
        | nil => exact absurd h hne
        | cons c x => rfl
      simp only [flat, List.length_append] at hf
      have hpos : 0 < t.text.length := List.length_pos_iff.2 hne
      simp only [tokLoop, flat, he, Bool.false_eq_true, if_false, tokOK_pass pt prev pos hok]
      rw [ih hrest f (some t.cat) (pos + t.text.length) (by omega)]
      rfl

end TexSoup
