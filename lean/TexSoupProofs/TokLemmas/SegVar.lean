import TexSoupProofs.TokLemmas.NameVar
/-!
# Replacing the tokens between two delimiters by one text token keeps a list separated

`SVar ts ts'`: `ts'` is `ts` where, at some places, the tokens between a left delimiter `l` (an
opening brace or bracket, or a closing brace) and a right delimiter `rt` (a closing brace or
bracket, or a backslash) have been replaced by one `Text` token whose text is `goodText`. If
`ts` is `Separated` and no command name is a bare sizing prefix, `ts'` is `Separated`
(`SVar.separated`): the delimiters are one-character tokens whatever surrounds them, the new
text follows something that is no backslash and is followed by a character at which texts end.
-/
namespace TexSoup

def leftDelim (l : Tok) : Prop := l.cat = .GroupBegin ∨ l.cat = .BracketBegin ∨ l.cat = .GroupEnd
def rightDelim (r : Tok) : Prop := r.cat = .GroupEnd ∨ r.cat = .BracketEnd ∨ r.cat = .Escape

inductive SVar : List Tok → List Tok → Prop
  | nil : SVar [] []
  | same (t : Tok) {r r' : List Tok} : SVar r r' → SVar (t :: r) (t :: r')
  | seg (l : Tok) (mid : List Tok) (tk rt : Tok) {r r' : List Tok} : leftDelim l → rightDelim rt →
      tk.cat = .Text → goodText tk.text = true → SVar r r' →
      SVar (l :: (mid ++ rt :: r)) (l :: tk :: rt :: r')

theorem SVar.refl : ∀ ts : List Tok, SVar ts ts
  | [] => .nil
  | t :: r => .same t (SVar.refl r)

theorem SVar.append {a a' b b' : List Tok} (h1 : SVar a a') (h2 : SVar b b') : SVar (a ++ b) (a' ++ b') := by
  induction h1 with
  | nil => exact h2
  | same t _ ih => exact .same t ih
  | @seg l mid tk rt r r' h3 h4 h5 h6 _ ih =>
    have := SVar.seg l mid tk rt h3 h4 h5 h6 ih
    simpa using this

theorem SVar.head {prev : Option Ch} {ts ts' : List Tok} (h : SVar ts ts') (hs : Separated prev ts) :
    (flat ts').head? = (flat ts).head? := by
  cases h with
  | nil => rfl
  | same t _ => rw [flat_head_cons t _ hs.1, flat_head_cons t _ hs.1]
  | seg l mid tk rt _ _ _ _ _ => rw [flat_head_cons l _ hs.1, flat_head_cons l _ hs.1]

theorem leftDelim_tokOK {prev : Option Ch} {l : Tok} {w w' : Str} (hl : leftDelim l)
    (h : TokOK prev l w) : TokOK prev l w' := by
  unfold TokOK at h ⊢
  rcases hl with hc | hc | hc <;> rw [hc] at h ⊢ <;> simp only [TokOK'] at h ⊢ <;> exact h

theorem rightDelim_tokOK {prev prev' : Option Ch} {t : Tok} {w : Str} (hr : rightDelim t)
    (h : TokOK prev t w) : TokOK prev' t w := by
  unfold TokOK at h ⊢
  rcases hr with hc | hc | hc <;> rw [hc] at h ⊢ <;> simp only [TokOK'] at h ⊢ <;> exact h

theorem SVar.separated {ts ts' : List Tok} (h : SVar ts ts') : ∀ {prev : Option Ch},
    Separated prev ts → (∀ t ∈ ts, t.cat = .CommandName → t.text ∉ Tables.sizePrefix) →
    Separated prev ts' := by
  induction h with
  | nil => intro _ _ _; trivial
  | @same t r r' hr ih =>
    intro prev hs hns
    obtain ⟨hne, hok, hrest⟩ := hs
    have hh := hr.head hrest
    exact ⟨hne, hok.of_head hh (hns t List.mem_cons_self),
      ih hrest (fun u hu => hns u (List.mem_cons_of_mem _ hu))⟩
  | @seg l mid tk rt r r' hl hrt htk hgood hr ih =>
    intro prev hs hns
    obtain ⟨hne, hok, hrest⟩ := hs
    obtain ⟨hrne, hrok, hrrest⟩ := hrest.suffix
    have hh := hr.head hrrest
    have hpe := prevEsc_after_delim hok hl
    have hstop := next_starts_with_stop hrok (by rcases hrt with h | h | h <;> rw [h] <;> rfl)
    have hoktk : TokOK (lastD l.text prev) tk (flat (rt :: r')) :=
      tokOK_goodText htk hgood hpe (by rw [flat_head_cons rt r' hrne, ← flat_head_cons rt r hrne]; exact hstop)
    have hokrt : TokOK (lastD tk.text (lastD l.text prev)) rt (flat r') :=
      rightDelim_tokOK hrt (hrok.of_head hh (fun hc => by
        rcases hrt with h | h | h <;> rw [h] at hc <;> cases hc))
    refine ⟨hne, leftDelim_tokOK hl hok, (goodText_spec hgood).1, hoktk, hrne, hokrt, ?_⟩
    rw [lastD_congr_default _ (lastD (flat mid) (lastD l.text prev)) hrne]
    exact ih hrrest fun u hu => hns u (by
      simp only [List.mem_cons, List.mem_append]
      exact .inr (.inr (.inr hu)))

theorem SVar.noBare {ts ts' : List Tok} (h : SVar ts ts') :
    (∀ t ∈ ts, t.cat = .CommandName → t.text ∉ Tables.sizePrefix) →
    ∀ t ∈ ts', t.cat = .CommandName → t.text ∉ Tables.sizePrefix := by
  induction h with
  | nil => intro _ t ht; cases ht
  | @same t r r' _ ih =>
    intro hns u hu
    rcases List.mem_cons.1 hu with rfl | hu
    · exact hns u List.mem_cons_self
    · exact ih (fun v hv => hns v (List.mem_cons_of_mem _ hv)) u hu
  | @seg l mid tk rt r r' _ _ htk _ _ ih =>
    intro hns u hu
    rcases List.mem_cons.1 hu with rfl | hu
    · exact hns u List.mem_cons_self
    · rcases List.mem_cons.1 hu with rfl | hu
      · intro hc; rw [htk] at hc; cases hc
      · rcases List.mem_cons.1 hu with rfl | hu
        · exact hns u (by simp)
        · exact ih (fun v hv => hns v (by
            simp only [List.mem_cons, List.mem_append]
            exact .inr (.inr (.inr hv)))) u hu

end TexSoup
