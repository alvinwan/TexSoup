import TexSoupProofs.TokLemmas.Basic
/-!
# `firstMatch` over a prefix-free table does not depend on the order of the table

`PUNCTUATION_COMMANDS` is a Python `set`; its iteration order depends on the hash seed.  The
tokenizer takes the first entry that is a prefix of the remaining text.  For a prefix-free
table at most one entry can match, so the order is irrelevant.
-/
namespace TexSoup

def PrefixFree (tbl : List Str) : Prop :=
  ∀ a ∈ tbl, ∀ b ∈ tbl, a ≠ b → isPrefix a b = false

def prefixFreeB (tbl : List Str) : Bool :=
  tbl.all fun a => tbl.all fun b => a == b || !isPrefix a b

theorem prefixFree_iff_check (tbl : List Str) : PrefixFree tbl ↔ prefixFreeB tbl = true := by
  simp only [prefixFreeB, List.all_eq_true, Bool.or_eq_true, beq_iff_eq, Bool.not_eq_true']
  refine ⟨fun h a ha b hb => ?_, fun h a ha b hb hab => (h a ha b hb).resolve_left hab⟩
  by_cases hab : a = b
  · exact Or.inl hab
  · exact Or.inr (h a ha b hb hab)

theorem PrefixFree.unique {tbl : List Str} (hpf : PrefixFree tbl) {a b rest : Str}
    (ha : a ∈ tbl) (hb : b ∈ tbl) (har : isPrefix a rest = true) (hbr : isPrefix b rest = true) :
    a = b := by
  by_cases hab : a = b
  · exact hab
  · rcases isPrefix_total har hbr with h | h
    · rw [hpf a ha b hb hab] at h; cases h
    · rw [hpf b hb a ha (Ne.symm hab)] at h; cases h

theorem firstMatch_eq_some_iff {tbl : List Str} (hpf : PrefixFree tbl) {rest p : Str} :
    firstMatch tbl rest = some p ↔ p ∈ tbl ∧ isPrefix p rest = true := by
  refine ⟨firstMatch_some, fun ⟨hm, hp⟩ => ?_⟩
  cases hf : firstMatch tbl rest with
  | none => rw [firstMatch_none.1 hf p hm] at hp; cases hp
  | some q =>
    have ⟨hqm, hqp⟩ := firstMatch_some hf
    rw [hpf.unique hqm hm hqp hp]

theorem PrefixFree.perm {tbl tbl' : List Str} (hp : tbl'.Perm tbl) (hpf : PrefixFree tbl) :
    PrefixFree tbl' :=
  fun a ha b hb hab => hpf a (hp.mem_iff.1 ha) b (hp.mem_iff.1 hb) hab

theorem firstMatch_perm {tbl tbl' : List Str} (hpf : PrefixFree tbl) (hp : tbl'.Perm tbl)
    (rest : Str) : firstMatch tbl' rest = firstMatch tbl rest := by
  cases hf : firstMatch tbl rest with
  | none =>
    rw [firstMatch_none] at hf ⊢
    exact fun p hm => hf p (hp.mem_iff.1 hm)
  | some p =>
    have ⟨hm, hpr⟩ := firstMatch_some hf
    exact (firstMatch_eq_some_iff (hpf.perm hp)).2 ⟨hp.mem_iff.2 hm, hpr⟩

/-! `prefixFreeB` compares all pairs of entries.  The table is sorted, so it is enough that every
entry parts ways with its successor before either ends. -/

def forks : Str → Str → Bool
  | x :: a, y :: b => x < y || (x == y && forks a b)
  | _, _ => false

theorem forks_trans : ∀ a b c : Str, forks a b = true → forks b c = true → forks a c = true
  | x :: a, y :: b, z :: c, h1, h2 => by
    simp only [forks, Bool.or_eq_true, Bool.and_eq_true, decide_eq_true_eq, beq_iff_eq] at *
    rcases h1 with h1 | ⟨rfl, h1⟩
    · rcases h2 with h2 | ⟨rfl, h2⟩
      · exact .inl (Nat.lt_trans h1 h2)
      · exact .inl h1
    · rcases h2 with h2 | ⟨rfl, h2⟩
      · exact .inl h2
      · exact .inr ⟨rfl, forks_trans _ _ _ h1 h2⟩
  | [], _, _, h1, _ => by simp [forks] at h1
  | _ :: _, [], _, h1, _ => by simp [forks] at h1
  | _ :: _, _ :: _, [], _, h2 => by simp [forks] at h2

theorem not_isPrefix_of_forks : ∀ {a b : Str}, forks a b = true →
    isPrefix a b = false ∧ isPrefix b a = false
  | x :: a, y :: b, h => by
    simp only [forks, Bool.or_eq_true, Bool.and_eq_true, decide_eq_true_eq, beq_iff_eq] at h
    simp only [isPrefix, Bool.and_eq_false_iff, beq_eq_false_iff_ne]
    rcases h with h | ⟨rfl, h⟩
    · exact ⟨.inl (Nat.ne_of_lt h), .inl (Nat.ne_of_gt h)⟩
    · exact ⟨.inr (not_isPrefix_of_forks h).1, .inr (not_isPrefix_of_forks h).2⟩
  | [], _, h => by simp [forks] at h
  | _ :: _, [], h => by simp [forks] at h

theorem prefixFree_of_linked {tbl : List Str} (h : linked forks tbl = true) : PrefixFree tbl := by
  have hp := pairwise_of_linked forks_trans h
  have h1 := hp.imp (S := fun a b => a ≠ b → isPrefix a b = false) fun hf _ =>
    (not_isPrefix_of_forks hf).1
  have h2 := hp.imp (S := fun a b => b ≠ a → isPrefix b a = false) fun hf _ =>
    (not_isPrefix_of_forks hf).2
  exact List.Pairwise.forall_of_forall_of_flip (fun _ _ hx => absurd rfl hx) h1 h2

theorem punctuationCommands_prefixFree : PrefixFree Tables.punctuationCommands :=
  prefixFree_of_linked (by decide +kernel)

end TexSoup
