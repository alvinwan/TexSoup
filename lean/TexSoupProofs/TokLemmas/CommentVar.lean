import TexSoupProofs.TokLemmas.SepFacts
/-!
# Changing the payload of comment tokens keeps a token list separated

If in a `Separated` token list some `Comment` tokens are replaced by other comment tokens
(`%`, then no end-of-line character), the list is still `Separated`: every tokenizer decision
about the tokens in front of a comment is taken before or at its `%` (no sizing command
contains a `%`, a blank run ends there at the latest), the comment itself only asks to be
followed by an end of line, and the token after it starts with that end of line, so that the
character before it – the last one of the payload – does not matter.
-/
namespace TexSoup

/-- Two texts that agree up to and including a `%`. -/
def PctRel (w w' : Str) : Prop := w' = w ∨ ∃ u x x', w = u ++ 37 :: x ∧ w' = u ++ 37 :: x'

theorem PctRel.refl (w : Str) : PctRel w w := .inl rfl

theorem PctRel.prepend {w w' : Str} (s : Str) (h : PctRel w w') : PctRel (s ++ w) (s ++ w') := by
  rcases h with rfl | ⟨u, x, x', rfl, rfl⟩
  · exact .inl rfl
  · exact .inr ⟨s ++ u, x, x', by simp, by simp⟩

theorem PctRel.head {w w' : Str} (h : PctRel w w') : w'.head? = w.head? := by
  rcases h with rfl | ⟨u, x, x', rfl, rfl⟩
  · rfl
  · cases u <;> rfl

theorem PctRel.spacerRun {w w' : Str} (a : Str) (h : PctRel w w') :
    spacerRun (a ++ w') = spacerRun (a ++ w) := by
  rcases h with rfl | ⟨u, x, x', rfl, rfl⟩
  · rfl
  · rw [← List.append_assoc, ← List.append_assoc,
      spacerRun_append_stop (a ++ u) x' (by decide) (by decide),
      spacerRun_append_stop (a ++ u) x (by decide) (by decide)]

theorem isPrefix_pct : ∀ (p v x x' : Str), 37 ∉ p →
    isPrefix p (v ++ 37 :: x') = isPrefix p (v ++ 37 :: x) := by
  intro p v
  induction v generalizing p with
  | nil =>
    intro x x' hp
    cases p with
    | nil => rfl
    | cons c p' =>
      have : (c == 37) = false := by
        have : c ≠ 37 := fun h => hp (by simp [h])
        simpa using this
      simp [isPrefix, this]
  | cons b v ih =>
    intro x x' hp
    cases p with
    | nil => rfl
    | cons c p' =>
      simp only [List.cons_append, isPrefix]
      rw [ih p' x x' (fun h => hp (by simp [h]))]

theorem firstMatch_congr {tbl : List Str} {s s' : Str}
    (h : ∀ p ∈ tbl, isPrefix p s' = isPrefix p s) : firstMatch tbl s' = firstMatch tbl s := by
  induction tbl with
  | nil => rfl
  | cons p ps ih =>
    simp only [firstMatch]
    rw [h p (by simp), ih fun q hq => h q (by simp [hq])]

theorem punctuationCommands_no_pct : ∀ p ∈ Tables.punctuationCommands, 37 ∉ p := by decide +kernel

theorem PctRel.firstMatch {w w' : Str} (a : Str) (h : PctRel w w') :
    firstMatch Tables.punctuationCommands (a ++ w') = firstMatch Tables.punctuationCommands (a ++ w) := by
  rcases h with rfl | ⟨u, x, x', rfl, rfl⟩
  · rfl
  · apply firstMatch_congr
    intro p hp
    rw [← List.append_assoc, ← List.append_assoc]
    exact isPrefix_pct p (a ++ u) x x' (punctuationCommands_no_pct p hp)

theorem PctRel.tokOK {prev : Option Ch} {t : Tok} {w w' : Str} (h : TokOK prev t w) (hr : PctRel w w') :
    TokOK prev t w' :=
  h.congr rfl hr.head (fun _ => hr.spacerRun t.text) (fun _ => hr.firstMatch t.text)

theorem tokOK_prev_irrel {prev prev' : Option Ch} {t : Tok} {w : Str} (h : TokOK prev t w)
    (he : ∀ c ∈ t.text.head?, catOf c = .EndOfLine) : TokOK prev' t w := by
  obtain ⟨c0, r, ht, hh⟩ := h.head
  rw [he c0 (by rw [ht]; rfl)] at hh
  obtain ⟨text, _, cat⟩ := t
  cases cat <;> simp only [HeadCat, reduceCtorEq, false_and] at hh
  case MergedSpacer => exact h
  case Text =>
    obtain ⟨hm, hrest⟩ := h
    cases ht
    exact ⟨⟨hm.1, fun _ hl => by rw [he c0 rfl] at hl; cases hl⟩, hrest⟩

inductive CVar : List Tok → List Tok → Prop
  | nil : CVar [] []
  | same (t : Tok) {r r' : List Tok} : CVar r r' → CVar (t :: r) (t :: r')
  | change (t t' : Tok) {r r' : List Tok} : t.cat = .Comment → t'.cat = .Comment →
      (∃ body, t'.text = 37 :: body ∧ ∀ c ∈ body, catOf c ≠ .EndOfLine) →
      CVar r r' → CVar (t :: r) (t' :: r')

theorem CVar.refl : ∀ ts : List Tok, CVar ts ts
  | [] => .nil
  | t :: r => .same t (CVar.refl r)

theorem CVar.append {a a' b b' : List Tok} (h1 : CVar a a') (h2 : CVar b b') : CVar (a ++ b) (a' ++ b') := by
  induction h1 with
  | nil => exact h2
  | same t _ ih => exact .same t ih
  | change t t' h3 h4 h5 _ ih => exact .change t t' h3 h4 h5 ih

theorem CVar.pctRel {prev : Option Ch} {ts ts' : List Tok} (h : CVar ts ts') (hs : Separated prev ts) :
    PctRel (flat ts) (flat ts') := by
  induction h generalizing prev with
  | nil => exact .refl _
  | same t _ ih => exact (ih hs.2.2).prepend t.text
  | @change t t' r r' h3 h4 h5 _ ih =>
    obtain ⟨_, hok, _⟩ := hs
    unfold TokOK at hok
    rw [h3] at hok
    simp only [TokOK'] at hok
    obtain ⟨c0, body, ht, h0, _⟩ := txtMany_iff.1 hok
    obtain ⟨body', ht', _⟩ := h5
    refine .inr ⟨[], body ++ flat r, body' ++ flat r', ?_, ?_⟩
    · simp [flat, ht, comment_char h0]
    · simp [flat, ht']

theorem CVar.separated {ts ts' : List Tok} (h : CVar ts ts') : ∀ {prev prev' : Option Ch},
    Separated prev ts → (prev' = prev ∨ ∀ c ∈ (flat ts).head?, catOf c = .EndOfLine) →
    Separated prev' ts' := by
  induction h with
  | nil => intro _ _ _ _; trivial
  | @same t r r' hr ih =>
    intro prev prev' hs hp
    obtain ⟨hne, hok, hrest⟩ := hs
    refine ⟨hne, ?_, ih hrest (.inl (lastD_congr_default _ _ hne))⟩
    have hok' : TokOK prev t (flat r') := (hr.pctRel hrest).tokOK hok
    rcases hp with rfl | hp
    · exact hok'
    · refine tokOK_prev_irrel hok' fun c hc => hp c ?_
      cases ht : t.text with
      | nil => exact absurd ht hne
      | cons a b => rw [ht] at hc; simpa [flat, ht] using hc
  | @change t t' r r' h3 h4 h5 hr ih =>
    intro prev prev' hs _
    obtain ⟨hne, hok, hrest⟩ := hs
    obtain ⟨body', ht', hb'⟩ := h5
    have hw : ∀ c ∈ (flat r).head?, catOf c = .EndOfLine := by
      unfold TokOK at hok
      rw [h3] at hok
      simp only [TokOK'] at hok
      obtain ⟨c0, body, _, _, _, hw⟩ := txtMany_iff.1 hok
      exact hw
    refine ⟨by rw [ht']; simp, ?_, ih hrest (.inr hw)⟩
    unfold TokOK
    rw [h4, ht']
    simp only [TokOK', TxtMany]
    refine ⟨catOf_percent, hb', ?_⟩
    rw [(hr.pctRel hrest).head]
    exact hw

end TexSoup
