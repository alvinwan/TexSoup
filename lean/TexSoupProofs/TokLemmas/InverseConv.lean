import TexSoupProofs.TokLemmas.InverseOK
/-!
# Tokenizer inverse, part 3: every tokenizer output is separated; corollaries

`exists_tokOK'`: every input whose first character is not ignored splits into a first token
satisfying `TokOK'` and a remainder.  Together with `tokOK_pass` this shows that the output
of the loop on a string without ignored characters is `Separated` and `Positioned`.
-/
namespace TexSoup

theorem text_decomp (prev : Option Ch) (c0 : Ch) (r : Str)
    (hs : isStringStop (catOf c0) = false) (hi : isIgnored (catOf c0) = false)
    (hsp : spacerRun (c0 :: r) = 0 ∨ headIsLO ((c0 :: r).drop (spacerRun (c0 :: r))) = true)
    (hpl : prevEsc prev = true → catOf c0 ≠ .Letter) :
    ∃ text cat w, c0 :: r = text ++ w ∧ TokOK' prev text cat w := by
  let p : Ch → Bool := fun x => !isStringStop (catOf x)
  have hR : c0 :: r = (c0 :: r.takeWhile p) ++ r.dropWhile p := by
    simp [List.takeWhile_append_dropWhile]
  have hw : ∀ c ∈ (r.dropWhile p).head?, isStringStop (catOf c) = true := by
    intro c hc
    have := head_dropWhile_not p r c hc
    simpa [p] using this
  have hall : ∀ c ∈ c0 :: r.takeWhile p, isStringStop (catOf c) = false := by
    intro c hc
    rcases List.mem_cons.1 hc with rfl | hc
    · exact hs
    · have := mem_takeWhile hc
      simpa [p] using this
  refine ⟨c0 :: r.takeWhile p, .Text, r.dropWhile p, hR, ?_⟩
  simp only [TokOK']
  refine ⟨txtMany_iff.2 ⟨c0, _, rfl, hi, hpl⟩, hall, ?_, hw⟩
  -- the blank-run condition transfers from the whole input to the text
  have hrun : spacerRun (c0 :: r) = spacerRun (c0 :: r.takeWhile p) := by
    rw [hR]
    exact spacerRun_append_of_head _ fun c hc =>
      ⟨(stop_not_plain (hw c hc)).1, (stop_not_plain (hw c hc)).2.1⟩
  simp only [textSpacerOK, Bool.or_eq_true, beq_iff_eq]
  rcases hsp with h0 | h1
  · left; rw [← hrun]; exact h0
  · right
    have hd := List.drop_append_of_le_length (l₂ := r.dropWhile p)
      (spacerRun_le (c0 :: r.takeWhile p))
    rw [← hrun] at hd ⊢
    have h1' : headIsLO ((c0 :: r.takeWhile p).drop (spacerRun (c0 :: r)) ++ r.dropWhile p) =
        true := by
      rw [← hd, ← hR]; exact h1
    cases hdt : (c0 :: r.takeWhile p).drop (spacerRun (c0 :: r)) with
    | nil =>
      rw [hdt, List.nil_append] at h1'
      cases hdw : r.dropWhile p with
      | nil => rw [hdw] at h1'; simp [headIsLO] at h1'
      | cons x y =>
        rw [hdw] at h1'
        have hx := hw x (by rw [hdw]; rfl)
        obtain ⟨_, _, k3, k4⟩ := stop_not_plain hx
        simp [headIsLO, k3, k4] at h1'
    | cons x y =>
      rw [hdt, List.cons_append] at h1'
      simpa [headIsLO] using h1'

theorem plain_decomp (prev : Option Ch) (c0 : Ch) (r : Str)
    (hs : isStringStop (catOf c0) = false) (hi : isIgnored (catOf c0) = false) :
    ∃ text cat w, c0 :: r = text ++ w ∧ TokOK' prev text cat w := by
  by_cases hsp : spacerRun (c0 :: r) ≠ 0 ∧
      headIsLO ((c0 :: r).drop (spacerRun (c0 :: r))) = false
  · obtain ⟨hn0, hlo⟩ := hsp
    have hle := spacerRun_le (c0 :: r)
    refine ⟨(c0 :: r).take (spacerRun (c0 :: r)), .MergedSpacer,
      (c0 :: r).drop (spacerRun (c0 :: r)), (List.take_append_drop _ _).symm, ?_⟩
    simp only [TokOK']
    refine ⟨?_, ?_, headIsLO_eq_false_iff.1 hlo⟩
    · intro he
      have := congrArg List.length he
      simp only [List.length_take, List.length_nil] at this
      omega
    · rw [List.take_append_drop, List.length_take]
      omega
  · have hsp' : spacerRun (c0 :: r) = 0 ∨
        headIsLO ((c0 :: r).drop (spacerRun (c0 :: r))) = true := by
      by_cases h0 : spacerRun (c0 :: r) = 0
      · exact Or.inl h0
      · right
        cases hl : headIsLO ((c0 :: r).drop (spacerRun (c0 :: r))) with
        | true => rfl
        | false => exact absurd ⟨h0, hl⟩ hsp
    cases hpe : prevEsc prev with
    | false => exact text_decomp prev c0 r hs hi hsp' (by simp [hpe])
    | true =>
      cases hfm : firstMatch Tables.punctuationCommands (c0 :: r) with
      | some point =>
        have ⟨hm, hpre⟩ := firstMatch_some hfm
        obtain ⟨w, hw⟩ := isPrefix_iff.1 hpre
        exact ⟨point, .PunctuationCommandName, w, hw, by simp only [TokOK']; exact ⟨hpe, hm⟩⟩
      | none =>
        by_cases hL : catOf c0 = .Letter
        · let q : Ch → Bool := fun c => isLetterCh c || c == 42
          have hR : c0 :: r = (c0 :: r.takeWhile q) ++ r.dropWhile q := by
            simp [List.takeWhile_append_dropWhile]
          refine ⟨c0 :: r.takeWhile q, .CommandName, r.dropWhile q, hR, ?_⟩
          simp only [TokOK']
          refine ⟨hpe, txtMany_iff.2 ⟨c0, _, rfl, hL, fun c hc => mem_takeWhile hc⟩,
            head_dropWhile_not q r, ?_⟩
          rw [← hR]; exact hfm
        · exact text_decomp prev c0 r hs hi hsp' (fun _ => hL)

theorem exists_tokOK' (prev : Option Ch) (c0 : Ch) (r : Str)
    (hi : isIgnored (catOf c0) = false) :
    ∃ text cat w, c0 :: r = text ++ w ∧ TokOK' prev text cat w := by
  cases hc : catOf c0
  case Escape =>
    cases r with
    | nil => exact ⟨[c0], .Escape, [], rfl, by simp [TokOK', TxtOne, hc]⟩
    | cons c1 r' =>
      cases he : isEscapable (catOf c1) with
      | true => exact ⟨[c0, c1], .EscapedComment, r', rfl, by simp [TokOK', TxtTwo, hc, he]⟩
      | false =>
        cases ha : asymSwitch (catOf c1) with
        | none => exact ⟨[c0], .Escape, c1 :: r', rfl, by simp [TokOK', TxtOne, hc, he, ha]⟩
        | some tc =>
          cases h1 : catOf c1 <;> simp only [h1, asymSwitch] at ha <;> cases ha
          · exact ⟨[c0, c1], .DisplayMathGroupBegin, r', rfl, by simp [TokOK', TxtTwo, hc, h1]⟩
          · exact ⟨[c0, c1], .DisplayMathGroupEnd, r', rfl, by simp [TokOK', TxtTwo, hc, h1]⟩
          · exact ⟨[c0, c1], .MathGroupBegin, r', rfl, by simp [TokOK', TxtTwo, hc, h1]⟩
          · exact ⟨[c0, c1], .MathGroupEnd, r', rfl, by simp [TokOK', TxtTwo, hc, h1]⟩
  case GroupBegin => exact ⟨[c0], .GroupBegin, r, rfl, by simp [TokOK', TxtOne, hc]⟩
  case GroupEnd => exact ⟨[c0], .GroupEnd, r, rfl, by simp [TokOK', TxtOne, hc]⟩
  case BracketBegin => exact ⟨[c0], .BracketBegin, r, rfl, by simp [TokOK', TxtOne, hc]⟩
  case BracketEnd => exact ⟨[c0], .BracketEnd, r, rfl, by simp [TokOK', TxtOne, hc]⟩
  case MathSwitch =>
    cases r with
    | nil => exact ⟨[c0], .MathSwitch, [], rfl, by simp [TokOK', TxtOne, hc]⟩
    | cons c1 r' =>
      by_cases h1 : catOf c1 = .MathSwitch
      · exact ⟨[c0, c1], .DisplayMathSwitch, r', rfl, by simp [TokOK', TxtTwo, hc, h1]⟩
      · exact ⟨[c0], .MathSwitch, c1 :: r', rfl, by simp [TokOK', TxtOne, hc, h1]⟩
  case Comment =>
    let p : Ch → Bool := fun c => catOf c != CC.EndOfLine
    refine ⟨c0 :: r.takeWhile p, .Comment, r.dropWhile p,
      by simp [List.takeWhile_append_dropWhile], ?_⟩
    simp only [TokOK']
    refine txtMany_iff.2 ⟨c0, _, rfl, hc, ?_, ?_⟩
    · intro c hcm
      have := mem_takeWhile hcm
      simpa [p] using this
    · intro c hcm
      have := head_dropWhile_not p r c hcm
      simpa [p] using this
  case Ignored => simp [hc, isIgnored] at hi
  case Invalid => simp [hc, isIgnored] at hi
  all_goals exact plain_decomp prev c0 r (by rw [hc]; rfl) hi

theorem tokLoop_separated (f : Nat) (pt : Option TC) (st : TSt) {ts : List Tok}
    (h : tokLoop f pt st = some ts) (hno : NoIgnored st.rest) :
    Separated st.prev ts ∧ flat ts = st.rest ∧ Positioned st.pos ts := by
  induction f generalizing pt st ts with
  | zero => simp [tokLoop] at h
  | succ f ih =>
    obtain ⟨prev, pos, rest⟩ := st
    cases rest with
    | nil =>
      simp only [tokLoop, List.isEmpty_nil, if_true, Option.some.injEq] at h
      subst h
      exact ⟨trivial, rfl, trivial⟩
    | cons c0 r =>
      simp only at hno
      obtain ⟨text, cat, w, hR, hok⟩ := exists_tokOK' prev c0 r (hno c0 (by simp))
      have hp := tokOK_pass pt prev pos (t := ⟨text, pos, cat⟩) hok
      rw [← hR] at hp
      simp only [tokLoop, List.isEmpty_cons, Bool.false_eq_true, if_false, hp] at h
      cases hl : tokLoop f (some cat) ⟨lastD text prev, pos + text.length, w⟩ with
      | none => simp [hl] at h
      | some ts' =>
        simp only [hl, Option.map_some, Option.some.injEq] at h
        subst h
        have hnow : NoIgnored w := fun c hc => hno c (by rw [hR]; simp [hc])
        obtain ⟨h1, h2, h3⟩ := ih _ _ hl hnow
        simp only at h1 h2 h3
        refine ⟨⟨TokOK.nonempty (t := ⟨text, pos, cat⟩) hok, ?_, h1⟩, ?_, ⟨rfl, h3⟩⟩
        · show TokOK' prev text cat (flat ts')
          rw [h2]; exact hok
        · simp only [flat, h2]; exact hR.symm

/-- Categories of tokens whose first character is a stop character of `tokenize_string`. -/
def stopCat : TC → Bool
  | .Escape | .GroupBegin | .GroupEnd | .BracketBegin | .BracketEnd | .MathSwitch
  | .DisplayMathSwitch | .EscapedComment | .MathGroupBegin | .MathGroupEnd
  | .DisplayMathGroupBegin | .DisplayMathGroupEnd | .Comment => true
  | _ => false

example : [TC.Escape, .GroupBegin, .GroupEnd, .BracketBegin, .BracketEnd, .MathSwitch,
    .DisplayMathSwitch, .EscapedComment, .MathGroupBegin, .MathGroupEnd, .DisplayMathGroupBegin,
    .DisplayMathGroupEnd, .Comment].all stopCat = true := by decide +kernel

/-- A well-formed token of a `stopCat` category starts with a stop character: this is the
"what follows" condition of `Text` and (sufficient for) `MergedSpacer` tokens. -/
theorem next_starts_with_stop {prev : Option Ch} {u : Tok} {r : List Tok}
    (hu : TokOK prev u (flat r)) (hcat : stopCat u.cat = true) :
    ∀ c ∈ (flat (u :: r)).head?, isStringStop (catOf c) = true := by
  obtain ⟨c0, b, ht, hh⟩ := hu.head
  intro c hc
  simp only [flat, ht, List.cons_append, List.head?_cons, Option.mem_def, Option.some.injEq] at hc
  subst hc
  cases hk : u.cat <;> rw [hk] at hcat hh <;> simp only [stopCat, HeadCat] at hcat hh <;>
    first | (rw [hh]; rfl) | cases hcat

theorem text_before_stop {prev : Option Ch} {text : Str} (p : Nat) {w : Str} (hne : text ≠ [])
    (hall : ∀ c ∈ text, isStringStop (catOf c) = false)
    (hign : ∀ c ∈ text.head?, isIgnored (catOf c) = false)
    (hsp : textSpacerOK text = true)
    (hprev : prevEsc prev = true → ∀ c ∈ text.head?, catOf c ≠ .Letter)
    (hw : ∀ c ∈ w.head?, isStringStop (catOf c) = true) :
    TokOK prev ⟨text, p, .Text⟩ w := by
  obtain ⟨c0, body, rfl⟩ := List.exists_cons_of_ne_nil hne
  exact ⟨txtMany_iff.2 ⟨c0, body, rfl, hign c0 rfl, fun h => hprev h c0 rfl⟩, hall, hsp, hw⟩

theorem spacer_before_stop {prev : Option Ch} {text : Str} (p : Nat) {w : Str} (hne : text ≠ [])
    (hrun : spacerRun text = text.length)
    (hw : ∀ c ∈ w.head?, isStringStop (catOf c) = true) :
    TokOK prev ⟨text, p, .MergedSpacer⟩ w := by
  refine ⟨hne, ?_, fun c hc => ⟨(stop_not_plain (hw c hc)).2.2.1, (stop_not_plain (hw c hc)).2.2.2⟩⟩
  show spacerRun (text ++ w) = text.length
  rw [spacerRun_append_of_head text fun c hc =>
    ⟨(stop_not_plain (hw c hc)).1, (stop_not_plain (hw c hc)).2.1⟩]
  exact hrun

example : ([32, 10, 32] : Str) ≠ [] ∧ spacerRun [32, 10, 32] = ([32, 10, 32] : Str).length ∧
    (∀ c ∈ ([91] : Str).head?, isStringStop (catOf c) = true) := by decide +kernel

theorem tokOK_groupBegin (prev : Option Ch) (p : Nat) (w : Str) :
    TokOK prev ⟨[123], p, .GroupBegin⟩ w :=
  catOf_lbrace

theorem tokOK_groupEnd (prev : Option Ch) (p : Nat) (w : Str) :
    TokOK prev ⟨[125], p, .GroupEnd⟩ w :=
  catOf_rbrace

theorem tokOK_bracketBegin (prev : Option Ch) (p : Nat) (w : Str) :
    TokOK prev ⟨[91], p, .BracketBegin⟩ w :=
  catOf_lbracket

theorem tokOK_bracketEnd (prev : Option Ch) (p : Nat) (w : Str) :
    TokOK prev ⟨[93], p, .BracketEnd⟩ w :=
  catOf_rbracket

theorem tokOK_displayMathSwitch (prev : Option Ch) (p : Nat) (w : Str) :
    TokOK prev ⟨[36, 36], p, .DisplayMathSwitch⟩ w :=
  ⟨catOf_dollar, catOf_dollar⟩

theorem tokOK_mathGroupBegin (prev : Option Ch) (p : Nat) (w : Str) :
    TokOK prev ⟨[92, 40], p, .MathGroupBegin⟩ w :=
  ⟨catOf_backslash, catOf_lparen⟩

theorem tokOK_mathGroupEnd (prev : Option Ch) (p : Nat) (w : Str) :
    TokOK prev ⟨[92, 41], p, .MathGroupEnd⟩ w :=
  ⟨catOf_backslash, catOf_rparen⟩

theorem tokOK_displayMathGroupBegin (prev : Option Ch) (p : Nat) (w : Str) :
    TokOK prev ⟨[92, 91], p, .DisplayMathGroupBegin⟩ w :=
  ⟨catOf_backslash, catOf_lbracket⟩

theorem tokOK_displayMathGroupEnd (prev : Option Ch) (p : Nat) (w : Str) :
    TokOK prev ⟨[92, 93], p, .DisplayMathGroupEnd⟩ w :=
  ⟨catOf_backslash, catOf_rbracket⟩

theorem tokOK_mathSwitch (prev : Option Ch) (p : Nat) {w : Str}
    (hw : ∀ c ∈ w.head?, catOf c ≠ .MathSwitch) : TokOK prev ⟨[36], p, .MathSwitch⟩ w :=
  ⟨catOf_dollar, hw⟩

theorem tokOK_escape (prev : Option Ch) (p : Nat) {w : Str}
    (hw : ∀ c ∈ w.head?, isEscapable (catOf c) = false ∧ asymSwitch (catOf c) = none) :
    TokOK prev ⟨[92], p, .Escape⟩ w :=
  ⟨catOf_backslash, hw⟩

theorem Separated.suffix {prev : Option Ch} {pre l : List Tok} (h : Separated prev (pre ++ l)) :
    Separated (lastD (flat pre) prev) l := by
  induction pre generalizing prev with
  | nil => exact h
  | cons t pre ih =>
    obtain ⟨_, _, h3⟩ := h
    simp only [flat, lastD_append]
    exact ih h3

/-- Two adjacent `Text` tokens are never separated (the tokenizer would have produced one). -/
theorem text_text_not_separated {prev : Option Ch} {pre : List Tok} {a b : Tok} {r : List Tok}
    (ha : a.cat = .Text) (hb : b.cat = .Text) : ¬ Separated prev (pre ++ a :: b :: r) := by
  intro h
  obtain ⟨_, hoka, hsb⟩ := h.suffix
  obtain ⟨_, hokb, _⟩ := hsb
  simp only [TokOK, ha, hb, TokOK'] at hoka hokb
  obtain ⟨c0, body, hbt, _⟩ := txtMany_iff.1 hokb.1
  have h1 := hoka.2.2.2 c0 (by simp [flat, hbt])
  have h2 := hokb.2.1 c0 (by simp [hbt])
  rw [h1] at h2
  cases h2

end TexSoup
