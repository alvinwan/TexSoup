import TexSoupProofs.TokLemmas.Pass
import TexSoupProofs.TokLemmas.FirstMatch
/-!
# What the first pass returns for given leading characters

These lemmas unfold `pass Tables.tokenizerOrder` completely, so they depend on the generated
registration order.
-/
namespace TexSoup

section skips
variable (pt : Option TC) (prev : Option Ch) (c0 : Ch) (r : Str)

theorem escapedSymbols_skip (h : catOf c0 ≠ .Escape) :
    runTk .escapedSymbols pt prev (c0 :: r) = .skip 0 := by
  cases r <;> simp [runTk, h]

theorem comment_skip (h : catOf c0 ≠ .Comment) :
    runTk .comment pt prev (c0 :: r) = .skip 0 := by
  simp [runTk_comment, h]

theorem mathSymSwitch_skip (h : catOf c0 ≠ .MathSwitch) :
    runTk .mathSymSwitch pt prev (c0 :: r) = .skip 0 := by
  simp [runTk, h]

theorem mathAsymSwitch_skip (h : catOf c0 ≠ .Escape) :
    runTk .mathAsymSwitch pt prev (c0 :: r) = .skip 0 := by
  cases r <;> simp [runTk, h]

theorem lineBreak_skip (h : catOf c0 ≠ .Escape) :
    runTk .lineBreak pt prev (c0 :: r) = .skip 0 := by
  cases r <;> simp [runTk, h]

theorem ignore_skip (h : isIgnored (catOf c0) = false) :
    runTk .ignore pt prev (c0 :: r) = .skip 0 := by
  simp [runTk, countWhile, h]

theorem spacers_skip (h1 : catOf c0 ≠ .Spacer) (h2 : catOf c0 ≠ .EndOfLine) :
    runTk .spacers pt prev (c0 :: r) = .skip 0 := by
  simp [runTk, spacerRun_zero c0 r h1 h2]

theorem symbols_skip (h : symbolOf (catOf c0) = none) :
    runTk .symbols pt prev (c0 :: r) = .skip 0 := by
  simp [runTk, h]

theorem punctuation_skip_of_prev (h : ∀ p ∈ prev, catOf p ≠ .Escape) (rest : Str) :
    runTk .punctuationCommandName pt prev rest = .skip 0 := by
  cases prev with
  | none => simp [runTk]
  | some p => simp [runTk, h p rfl]

theorem commandName_skip_of_prev (h : ∀ p ∈ prev, catOf p ≠ .Escape) (rest : Str) :
    runTk .commandName pt prev rest = .skip 0 := by
  cases prev with
  | none => simp [runTk]
  | some p => cases rest <;> simp [runTk, h p rfl]

end skips

theorem pass_cons_of_skip {k : TkName} {ks : List TkName} {pt : Option TC} {prev : Option Ch}
    {pos : Nat} {rest : Str} (h : runTk k pt prev rest = .skip 0) (hne : rest ≠ [] := by exact List.cons_ne_nil _ _) :
    pass (k :: ks) pt ⟨prev, pos, rest⟩ = pass ks pt ⟨prev, pos, rest⟩ := by
  obtain ⟨c0, r, rfl⟩ := List.exists_cons_of_ne_nil hne
  simp [pass, h]

theorem pass_cons_of_tok {k : TkName} {ks : List TkName} {pt : Option TC} {prev : Option Ch}
    {pos : Nat} {rest : Str} {n : Nat} {c : TC} (h : runTk k pt prev rest = .tok n c) :
    pass (k :: ks) pt ⟨prev, pos, rest⟩ =
      .tok ⟨rest.take n, pos, c⟩ ((⟨prev, pos, rest⟩ : TSt).adv n) := by
  simp [pass, h]

theorem take_one_add_countWhile (p : Ch → Bool) (c0 : Ch) (r : Str) :
    (c0 :: r).take (1 + countWhile p r) = c0 :: r.takeWhile p := by
  rw [Nat.add_comm, List.take_succ_cons, take_countWhile]

theorem adv_one_add_countWhile (p : Ch → Bool) (prev : Option Ch) (pos : Nat) (c0 : Ch) (r : Str) :
    (⟨prev, pos, c0 :: r⟩ : TSt).adv (1 + countWhile p r) =
      ⟨lastD (r.takeWhile p) (some c0), pos + (1 + (r.takeWhile p).length), r.dropWhile p⟩ := by
  simp only [TSt.adv, take_one_add_countWhile, lastD_cons, List.length_cons]
  rw [Nat.add_comm 1 (countWhile p r), List.drop_succ_cons, drop_countWhile]
  simp [Nat.add_comm]

theorem adv_append (prev : Option Ch) (pos : Nat) (a b : Str) :
    (⟨prev, pos, a ++ b⟩ : TSt).adv a.length = ⟨lastD a prev, pos + a.length, b⟩ := by
  simp [TSt.adv]

theorem stop_not_plain {c : Ch} (hc : isStringStop (catOf c) = true) :
    catOf c ≠ .Spacer ∧ catOf c ≠ .EndOfLine ∧ catOf c ≠ .Letter ∧ catOf c ≠ .Other := by
  cases h : catOf c <;> simp [h, isStringStop] at hc ⊢

/-- An escape character followed by an escapable character (`\%`, `\$`, `\\`, `\{`, …) is a
single `EscapedComment` token: such pairs are never comments, math switches or groups. -/
theorem first_escaped (pt : Option TC) (prev : Option Ch) (pos : Nat) (c0 c1 : Ch) (r : Str)
    (h0 : catOf c0 = .Escape) (h1 : isEscapable (catOf c1) = true) :
    pass Tables.tokenizerOrder pt ⟨prev, pos, c0 :: c1 :: r⟩ =
      .tok ⟨[c0, c1], pos, .EscapedComment⟩ ⟨some c1, pos + 2, r⟩ := by
  simp [Tables.tokenizerOrder, pass, runTk, h0, h1, TSt.adv, lastD]

example : catOf 92 = .Escape ∧ isEscapable (catOf 37) = true ∧ isEscapable (catOf 36) = true ∧
    isEscapable (catOf 92) = true ∧ isEscapable (catOf 123) = true := by decide +kernel

theorem first_comment (pt : Option TC) (prev : Option Ch) (pos : Nat) (c0 : Ch) (r : Str)
    (h0 : catOf c0 = .Comment) :
    pass Tables.tokenizerOrder pt ⟨prev, pos, c0 :: r⟩ =
      .tok ⟨c0 :: r.takeWhile (fun c => catOf c != .EndOfLine), pos, .Comment⟩
        ⟨lastD (r.takeWhile (fun c => catOf c != .EndOfLine)) (some c0),
         pos + (1 + (r.takeWhile (fun c => catOf c != .EndOfLine)).length),
         r.dropWhile (fun c => catOf c != .EndOfLine)⟩ := by
  have he := escapedSymbols_skip pt prev c0 r (by rw [h0]; decide)
  simp only [Tables.tokenizerOrder, pass, he, TSt.adv_zero, List.isEmpty_cons, runTk_comment, h0,
    beq_self_eq_true, if_true, take_one_add_countWhile, adv_one_add_countWhile]
  simp

example : catOf 37 = .Comment := by decide +kernel

theorem first_mathSwitch_two (pt : Option TC) (prev : Option Ch) (pos : Nat) (c0 c1 : Ch) (r : Str)
    (h0 : catOf c0 = .MathSwitch) (h1 : catOf c1 = .MathSwitch) :
    pass Tables.tokenizerOrder pt ⟨prev, pos, c0 :: c1 :: r⟩ =
      .tok ⟨[c0, c1], pos, .DisplayMathSwitch⟩ ⟨some c1, pos + 2, r⟩ := by
  have he := escapedSymbols_skip pt prev c0 (c1 :: r) (by rw [h0]; decide)
  have hc := comment_skip pt prev c0 (c1 :: r) (by rw [h0]; decide)
  have ht : runTk .mathSymSwitch pt prev (c0 :: c1 :: r) = .tok 2 .DisplayMathSwitch := by
    simp [runTk, h0, h1]
  rw [Tables.tokenizerOrder, pass_cons_of_skip he, pass_cons_of_skip hc, pass_cons_of_tok ht]
  simp [TSt.adv, lastD]

theorem first_mathSwitch_one (pt : Option TC) (prev : Option Ch) (pos : Nat) (c0 : Ch) (r : Str)
    (h0 : catOf c0 = .MathSwitch) (h1 : ∀ c1 ∈ r.head?, catOf c1 ≠ .MathSwitch) :
    pass Tables.tokenizerOrder pt ⟨prev, pos, c0 :: r⟩ =
      .tok ⟨[c0], pos, .MathSwitch⟩ ⟨some c0, pos + 1, r⟩ := by
  have he := escapedSymbols_skip pt prev c0 r (by rw [h0]; decide)
  have hc := comment_skip pt prev c0 r (by rw [h0]; decide)
  have ht : runTk .mathSymSwitch pt prev (c0 :: r) = .tok 1 .MathSwitch := by
    cases r with
    | nil => simp [runTk, h0]
    | cons c1 r =>
      have h1' : catOf c1 ≠ .MathSwitch := h1 c1 rfl
      simp [runTk, h0, h1']
  rw [Tables.tokenizerOrder, pass_cons_of_skip he, pass_cons_of_skip hc, pass_cons_of_tok ht]
  simp [TSt.adv, lastD]

example : catOf 36 = .MathSwitch ∧ ∀ c1 ∈ ([120, 36] : Str).head?, catOf c1 ≠ .MathSwitch := by
  decide +kernel

theorem first_asymSwitch (pt : Option TC) (prev : Option Ch) (pos : Nat) (c0 c1 : Ch) (r : Str)
    (t : TC) (h0 : catOf c0 = .Escape) (h1 : asymSwitch (catOf c1) = some t) :
    pass Tables.tokenizerOrder pt ⟨prev, pos, c0 :: c1 :: r⟩ =
      .tok ⟨[c0, c1], pos, t⟩ ⟨some c1, pos + 2, r⟩ := by
  have hne : isEscapable (catOf c1) = false := by
    rcases asymSwitch_eq_some h1 with ⟨hc, _⟩ | ⟨hc, _⟩ | ⟨hc, _⟩ | ⟨hc, _⟩ <;> rw [hc] <;> rfl
  have he : runTk .escapedSymbols pt prev (c0 :: c1 :: r) = .skip 0 := by simp [runTk, h0, hne]
  have hc := comment_skip pt prev c0 (c1 :: r) (by rw [h0]; decide)
  have hm := mathSymSwitch_skip pt prev c0 (c1 :: r) (by rw [h0]; decide)
  have ht : runTk .mathAsymSwitch pt prev (c0 :: c1 :: r) = .tok 2 t := by simp [runTk, h0, h1]
  rw [Tables.tokenizerOrder, pass_cons_of_skip he, pass_cons_of_skip hc, pass_cons_of_skip hm,
    pass_cons_of_tok ht]
  simp [TSt.adv, lastD]

example : catOf 92 = .Escape ∧ asymSwitch (catOf 91) = some .DisplayMathGroupBegin ∧
    asymSwitch (catOf 93) = some .DisplayMathGroupEnd ∧
    asymSwitch (catOf 40) = some .MathGroupBegin ∧
    asymSwitch (catOf 41) = some .MathGroupEnd := by decide +kernel

/-- A brace or square bracket is a one-character token of the corresponding kind
(`symbolOf` lists `{`, `}`, `[`, `]` and the escape, which is excluded here). -/
theorem first_symbol (pt : Option TC) (prev : Option Ch) (pos : Nat) (c0 : Ch) (r : Str) (t : TC)
    (h0 : catOf c0 ≠ .Escape) (hs : symbolOf (catOf c0) = some t) :
    pass Tables.tokenizerOrder pt ⟨prev, pos, c0 :: r⟩ =
      .tok ⟨[c0], pos, t⟩ ⟨some c0, pos + 1, r⟩ := by
  have hcat : catOf c0 ≠ .Comment ∧ catOf c0 ≠ .MathSwitch ∧ isIgnored (catOf c0) = false ∧
      catOf c0 ≠ .Spacer ∧ catOf c0 ≠ .EndOfLine := by
    cases hc : catOf c0 <;> simp [hc, symbolOf] at hs h0 <;> simp [isIgnored]
  obtain ⟨h1, h2, h3, h4, h5⟩ := hcat
  have ht : runTk .symbols pt prev (c0 :: r) = .tok 1 t := by simp [runTk, hs]
  rw [Tables.tokenizerOrder, pass_cons_of_skip (escapedSymbols_skip _ _ _ _ h0),
    pass_cons_of_skip (comment_skip _ _ _ _ h1), pass_cons_of_skip (mathSymSwitch_skip _ _ _ _ h2),
    pass_cons_of_skip (mathAsymSwitch_skip _ _ _ _ h0), pass_cons_of_skip (lineBreak_skip _ _ _ _ h0),
    pass_cons_of_skip (ignore_skip _ _ _ _ h3), pass_cons_of_skip (spacers_skip _ _ _ _ h4 h5),
    pass_cons_of_tok ht]
  simp [TSt.adv, lastD]

example : catOf 123 ≠ .Escape ∧ symbolOf (catOf 123) = some .GroupBegin ∧
    symbolOf (catOf 125) = some .GroupEnd ∧ symbolOf (catOf 91) = some .BracketBegin ∧
    symbolOf (catOf 93) = some .BracketEnd := by decide +kernel

theorem first_escape (pt : Option TC) (prev : Option Ch) (pos : Nat) (c0 : Ch) (r : Str)
    (h0 : catOf c0 = .Escape)
    (h1 : ∀ c1 ∈ r.head?, isEscapable (catOf c1) = false ∧ asymSwitch (catOf c1) = none) :
    pass Tables.tokenizerOrder pt ⟨prev, pos, c0 :: r⟩ =
      .tok ⟨[c0], pos, .Escape⟩ ⟨some c0, pos + 1, r⟩ := by
  have hc := comment_skip pt prev c0 r (by rw [h0]; decide)
  have hm := mathSymSwitch_skip pt prev c0 r (by rw [h0]; decide)
  have hi := ignore_skip pt prev c0 r (by rw [h0]; rfl)
  have hsp := spacers_skip pt prev c0 r (by rw [h0]; decide) (by rw [h0]; decide)
  have ht : runTk .symbols pt prev (c0 :: r) = .tok 1 .Escape := by simp [runTk, h0, symbolOf]
  have h3 : runTk .escapedSymbols pt prev (c0 :: r) = .skip 0 ∧
      runTk .mathAsymSwitch pt prev (c0 :: r) = .skip 0 ∧
      runTk .lineBreak pt prev (c0 :: r) = .skip 0 := by
    cases r with
    | nil => simp [runTk]
    | cons c1 r =>
      obtain ⟨h2, h3⟩ := h1 c1 rfl
      have h4 : catOf c1 ≠ .Escape := by
        intro h; rw [h] at h2; cases h2
      simp [runTk, h0, h2, h3, h4]
  rw [Tables.tokenizerOrder, pass_cons_of_skip h3.1, pass_cons_of_skip hc, pass_cons_of_skip hm,
    pass_cons_of_skip h3.2.1, pass_cons_of_skip h3.2.2, pass_cons_of_skip hi,
    pass_cons_of_skip hsp, pass_cons_of_tok ht]
  simp [TSt.adv, lastD]

example : catOf 92 = .Escape ∧
    ∀ c1 ∈ ([98, 102, 123] : Str).head?,
      isEscapable (catOf c1) = false ∧ asymSwitch (catOf c1) = none := by decide +kernel

theorem pass_letter_prefix (pt : Option TC) (prev : Option Ch) (pos : Nat) (c0 : Ch) (r : Str)
    (h0 : catOf c0 = .Letter) :
    pass Tables.tokenizerOrder pt ⟨prev, pos, c0 :: r⟩ =
      pass [.punctuationCommandName, .commandName, .string] pt ⟨prev, pos, c0 :: r⟩ := by
  rw [Tables.tokenizerOrder,
    pass_cons_of_skip (escapedSymbols_skip pt prev c0 r (by rw [h0]; decide)),
    pass_cons_of_skip (comment_skip pt prev c0 r (by rw [h0]; decide)),
    pass_cons_of_skip (mathSymSwitch_skip pt prev c0 r (by rw [h0]; decide)),
    pass_cons_of_skip (mathAsymSwitch_skip pt prev c0 r (by rw [h0]; decide)),
    pass_cons_of_skip (lineBreak_skip pt prev c0 r (by rw [h0]; decide)),
    pass_cons_of_skip (ignore_skip pt prev c0 r (by rw [h0]; rfl)),
    pass_cons_of_skip (spacers_skip pt prev c0 r (by rw [h0]; decide) (by rw [h0]; decide)),
    pass_cons_of_skip (symbols_skip pt prev c0 r (by rw [h0]; rfl))]

theorem first_commandName (pt : Option TC) (p : Ch) (pos : Nat) (c0 : Ch) (r : Str)
    (hp : catOf p = .Escape) (h0 : catOf c0 = .Letter)
    (hfm : firstMatch Tables.punctuationCommands (c0 :: r) = none) :
    pass Tables.tokenizerOrder pt ⟨some p, pos, c0 :: r⟩ =
      .tok ⟨c0 :: r.takeWhile (fun c => isLetterCh c || c == 42), pos, .CommandName⟩
        ⟨lastD (r.takeWhile (fun c => isLetterCh c || c == 42)) (some c0),
         pos + (1 + (r.takeWhile (fun c => isLetterCh c || c == 42)).length),
         r.dropWhile (fun c => isLetterCh c || c == 42)⟩ := by
  have hs : runTk .punctuationCommandName pt (some p) (c0 :: r) = .skip 0 := by
    simp [runTk, hp, hfm]
  have ht : runTk .commandName pt (some p) (c0 :: r) =
      .tok (1 + countWhile (fun c => isLetterCh c || c == 42) r) .CommandName := by
    simp [runTk, hp, h0]
  rw [pass_letter_prefix pt (some p) pos c0 r h0, pass_cons_of_skip hs, pass_cons_of_tok ht,
    take_one_add_countWhile, adv_one_add_countWhile]

example : catOf 92 = .Escape ∧ catOf 98 = .Letter ∧
    firstMatch Tables.punctuationCommands [98, 102, 42, 123] = none := by decide +kernel

/-- Right after an escape character, a sizing command (`left(`, `Big\{`, …) is one
`PunctuationCommandName` token, whatever the iteration order of the table. -/
theorem first_punctuation (pt : Option TC) (p : Ch) (pos : Nat) (point r : Str)
    (hp : catOf p = .Escape) (hm : point ∈ Tables.punctuationCommands) :
    pass Tables.tokenizerOrder pt ⟨some p, pos, point ++ r⟩ =
      .tok ⟨point, pos, .PunctuationCommandName⟩ ⟨lastD point (some p), pos + point.length, r⟩ := by
  have hfm : firstMatch Tables.punctuationCommands (point ++ r) = some point :=
    (firstMatch_eq_some_iff punctuationCommands_prefixFree).2 ⟨hm, isPrefix_iff.2 ⟨r, rfl⟩⟩
  have ht : runTk .punctuationCommandName pt (some p) (point ++ r) =
      .tok point.length .PunctuationCommandName := by
    simp [runTk, hp, hfm]
  have hh := punctuationCommands_head_letter point hm
  cases point with
  | nil => simp at hh
  | cons c0 q =>
    simp only [List.head?_cons, Option.map_some, Option.some.injEq] at hh
    rw [List.cons_append] at ht ⊢
    rw [pass_letter_prefix pt (some p) pos c0 (q ++ r) hh, pass_cons_of_tok ht]
    simp [TSt.adv]

example : catOf 92 = .Escape ∧ [108, 101, 102, 116, 40] ∈ Tables.punctuationCommands := by
  decide +kernel

end TexSoup
