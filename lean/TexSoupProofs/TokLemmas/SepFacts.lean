import TexSoupProofs.Properties.TokInverse
import TexSoupProofs.Reader.ConsDefs
/-!
# What a separated token list knows about its tokens

Every token of a `Separated` list carries the text its category stands for (`shapedB`), and the
token after a backslash is a command name – letters and `*`, or a sizing command – hence free of
blanks (`strip` leaves it alone). These are the lexical hypotheses `Hyp.shaped` / `Hyp.escOK` of
the reader theorems, obtained here without running the tokenizer.
-/
namespace TexSoup

theorem separated_shaped {prev : Option Ch} {ts : List Tok} (h : Separated prev ts) :
    ∀ t ∈ ts, shapedB t = true := by
  induction ts generalizing prev with
  | nil => intro t ht; cases ht
  | cons u r ih =>
    obtain ⟨_, hu, hr⟩ := h
    intro t ht
    rcases List.mem_cons.1 ht with rfl | ht
    · exact pass_shaped (tokOK_pass none prev t.pos hu)
    · exact ih hr t ht

theorem name_after_escape {prev : Option Ch} {esc n : Tok} {r : List Tok}
    (h : Separated prev (esc :: n :: r)) (hc : esc.cat = .Escape) :
    (n.cat = .CommandName ∨ n.cat = .PunctuationCommandName) ∧
      ∀ c ∈ n.text, isSpaceCh c = false := by
  obtain ⟨_, hesc, _, hn, _⟩ := h
  obtain ⟨c1, body, hnt, hh⟩ := hn.head
  -- the backslash is followed by the first character of `n`, which is therefore a letter
  unfold TokOK at hesc
  rw [hc] at hesc
  obtain ⟨c0, ht0, h0, h1⟩ := txtOne_iff.1 hesc
  have hfollow := h1 c1 (by simp [flat, hnt])
  have hpe : prevEsc (lastD esc.text prev) = true := by simp [ht0, lastD, prevEsc, h0]
  unfold TokOK at hn
  cases hcat : n.cat <;> rw [hcat] at hn hh <;> simp only [HeadCat] at hh
  case CommandName =>
    obtain ⟨a, b, ht, ha, hb⟩ := txtMany_iff.1 hn.2.1
    refine ⟨.inl rfl, fun c hcm => ?_⟩
    rw [ht] at hcm
    rcases List.mem_cons.1 hcm with rfl | hcm
    · exact letterOrStar_not_space (by simp [isLetterCh, ha])
    · exact letterOrStar_not_space (hb c hcm)
  case PunctuationCommandName => exact ⟨.inr rfl, punctuationCommands_no_space _ hn.2⟩
  case Text =>
    exact absurd (letter_of_leftover hfollow.1 hfollow.2 hh.2.1) (hh.2.2 hpe)
  -- every other category starts with an escapable character, a bracket or a parenthesis
  all_goals first
    | exact hh.elim
    | (rcases hh with hh | hh <;> simp [hh, isEscapable] at hfollow)
    | simp [hh, isEscapable, asymSwitch] at hfollow

theorem separated_escOK {prev : Option Ch} {ts : List Tok} (h : Separated prev ts) :
    ∀ pre esc n r, ts = pre ++ esc :: n :: r → esc.cat = .Escape → strip n.text = n.text := by
  intro pre esc n r he hc
  rw [he] at h
  exact strip_of_no_space (name_after_escape h.suffix hc).2

end TexSoup
