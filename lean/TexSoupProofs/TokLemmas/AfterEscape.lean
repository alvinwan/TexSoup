import TexSoupProofs.TokLemmas.FirstTok
import TexSoupProofs.Properties.TableSpec
/-!
# Command names contain no whitespace

A lone backslash is followed by a letter (`letter_of_leftover`), and the name that starts there –
letters and `*`, or a sizing command – is its own `strip()`.
-/
namespace TexSoup

theorem dropWhileSpace_of_head {s : Str} (h : ∀ c ∈ s.head?, isSpaceCh c = false) :
    dropWhileSpace s = s := by
  cases s with
  | nil => rfl
  | cons c r => simp [dropWhileSpace, h c rfl]

theorem strip_of_no_space {s : Str} (h : ∀ c ∈ s, isSpaceCh c = false) : strip s = s := by
  have h1 : dropWhileSpace s = s :=
    dropWhileSpace_of_head fun c hc => h c (List.mem_of_mem_head? hc)
  have h2 : dropWhileSpace s.reverse = s.reverse :=
    dropWhileSpace_of_head fun c hc => h c (List.mem_reverse.1 (List.mem_of_mem_head? hc))
  simp [strip, h1, h2]

theorem punctuationCommands_no_space :
    ∀ q ∈ Tables.punctuationCommands, ∀ c ∈ q, isSpaceCh c = false := by
  decide +kernel

theorem mem_charsOf {c : Ch} {v : CC} (h : catOf c = v) (hne : v ≠ .Other) :
    c ∈ TableSpec.charsOf v :=
  List.mem_map.2 ⟨(c, v), List.mem_filter.2 ⟨mem_catTable_of_catOf h hne, beq_self_eq_true v⟩, rfl⟩

theorem catOf_space_ne_letter {c : Ch} (h : isSpaceCh c = true) : catOf c ≠ .Letter := by
  intro hl
  have hc := mem_charsOf hl (by decide)
  rw [TableSpec.letter_chars] at hc
  have key : ∀ d ∈ (List.range 26).map (· + 65) ++ (List.range 26).map (· + 97),
      isSpaceCh d = false := by decide +kernel
  rw [key c hc] at h
  cases h

theorem letterOrStar_not_space {c : Ch} (h : (isLetterCh c || c == 42) = true) :
    isSpaceCh c = false := by
  simp only [Bool.or_eq_true, beq_iff_eq, isLetterCh] at h
  rcases h with h | rfl
  · cases hs : isSpaceCh c with
    | false => rfl
    | true => exact absurd h (catOf_space_ne_letter hs)
  · decide

theorem letter_of_leftover {c : Ch} (h1 : isEscapable (catOf c) = false)
    (h2 : asymSwitch (catOf c) = none) (h3 : isIgnored (catOf c) = false) : catOf c = .Letter := by
  have ⟨h4, h5⟩ := catOf_ne_mathGroup c
  cases hc : catOf c <;> simp_all [isEscapable, asymSwitch, isIgnored]

end TexSoup
