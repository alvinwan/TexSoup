import TexSoupProofs.TokLemmas
/-!
# Tokenizer inverse, part 1: the remaining first-token lemmas and the live categories

* `first_text`, `first_spacer` — when a pass returns one `Text` / `MergedSpacer` token with a
  given text;
* `pass_live` — a pass never returns `LineBreak`, `SizeCommand`, `Spacer`, `ParenBegin`,
  `ParenEnd`.

The definitions `headIsLO`, `textSpacerOK`, `prevEsc` and `liveCat` stand in front of the lemmas
that first need them; the condition `TokOK'` of `InverseOK.lean` is built from them.
-/
namespace TexSoup

theorem countWhile_append_of_head {p : Ch → Bool} {a w : Str} (ha : ∀ x ∈ a, p x = true)
    (hw : ∀ c ∈ w.head?, p c = false) : countWhile p (a ++ w) = a.length := by
  cases w with
  | nil => rw [List.append_nil]; exact countWhile_all ha
  | cons c r => exact countWhile_append_all r ha (hw c rfl)

theorem takeWhile_append_of_head {p : Ch → Bool} {a w : Str} (ha : ∀ x ∈ a, p x = true)
    (hw : ∀ c ∈ w.head?, p c = false) : (a ++ w).takeWhile p = a := by
  induction a with
  | nil =>
    cases w with
    | nil => rfl
    | cons c r => simp [hw c rfl]
  | cons x a ih =>
    simp only [List.cons_append, List.takeWhile_cons, ha x (by simp), if_true]
    rw [ih fun y hy => ha y (by simp [hy])]

theorem dropWhile_append_of_head {p : Ch → Bool} {a w : Str} (ha : ∀ x ∈ a, p x = true)
    (hw : ∀ c ∈ w.head?, p c = false) : (a ++ w).dropWhile p = w := by
  induction a with
  | nil =>
    cases w with
    | nil => rfl
    | cons c r => simp [hw c rfl]
  | cons x a ih =>
    simp only [List.cons_append, List.dropWhile_cons, ha x (by simp), if_true]
    rw [ih fun y hy => ha y (by simp [hy])]

theorem head_dropWhile_not (p : Ch → Bool) (l : Str) : ∀ c ∈ (l.dropWhile p).head?, p c = false := by
  induction l with
  | nil => simp
  | cons x l ih =>
    simp only [List.dropWhile_cons]
    split
    · exact ih
    · rename_i hx
      intro c hc
      simp only [List.head?_cons, Option.mem_def, Option.some.injEq] at hc
      subst hc
      simpa using hx

theorem spacerRun_append_of_head (a : Str) {w : Str}
    (hw : ∀ c ∈ w.head?, catOf c ≠ .Spacer ∧ catOf c ≠ .EndOfLine) :
    spacerRun (a ++ w) = spacerRun a := by
  cases w with
  | nil => rw [List.append_nil]
  | cons c r => exact spacerRun_append_stop a r (hw c rfl).1 (hw c rfl).2

def headIsLO : Str → Bool
  | c :: _ => catOf c == .Letter || catOf c == .Other
  | [] => false

theorem headIsLO_eq_false_iff {w : Str} :
    headIsLO w = false ↔ ∀ c ∈ w.head?, catOf c ≠ .Letter ∧ catOf c ≠ .Other := by
  cases w with
  | nil => simp [headIsLO]
  | cons c r => simp [headIsLO]

theorem headIsLO_append {a : Str} (w : Str) (h : headIsLO a = true) : headIsLO (a ++ w) = true := by
  cases a with
  | nil => simp [headIsLO] at h
  | cons c r => simpa [headIsLO] using h

theorem runTk_spacers_eq (pt : Option TC) (prev : Option Ch) (rest : Str) :
    runTk .spacers pt prev rest =
      if headIsLO (rest.drop (spacerRun rest)) then .skip 0
      else if spacerRun rest == 0 then .skip 0
      else .tok (spacerRun rest) .MergedSpacer := by
  simp only [runTk]
  generalize spacerRun rest = n
  cases rest.drop n <;> simp [headIsLO]

/-- `tokenize_spacers` leaves `text` alone: no leading blank run, or the run is followed by a
`Letter`/`Other` character inside `text`. -/
def textSpacerOK (text : Str) : Bool :=
  spacerRun text == 0 || headIsLO (text.drop (spacerRun text))

theorem textSpacerOK_of_head {c : Ch} {r : Str} (h1 : catOf c ≠ .Spacer)
    (h2 : catOf c ≠ .EndOfLine) : textSpacerOK (c :: r) = true := by
  simp [textSpacerOK, spacerRun_zero c r h1 h2]

theorem spacers_skip_of_ok (pt : Option TC) (prev : Option Ch) {text w : Str}
    (hok : textSpacerOK text = true) (hw : ∀ c ∈ w.head?, isStringStop (catOf c) = true) :
    runTk .spacers pt prev (text ++ w) = .skip 0 := by
  have hrun : spacerRun (text ++ w) = spacerRun text :=
    spacerRun_append_of_head text fun c hc =>
      ⟨(stop_not_plain (hw c hc)).1, (stop_not_plain (hw c hc)).2.1⟩
  rw [runTk_spacers_eq, hrun]
  simp only [textSpacerOK, Bool.or_eq_true, beq_iff_eq] at hok
  rcases hok with h0 | h1
  · simp [h0]
  · rw [List.drop_append_of_le_length (spacerRun_le text), headIsLO_append w h1]
    simp

theorem firstMatch_none_of_head {c0 : Ch} (r : Str) (h : catOf c0 ≠ .Letter) :
    firstMatch Tables.punctuationCommands (c0 :: r) = none := by
  rw [firstMatch_none]
  intro q hq
  have hh := punctuationCommands_head_letter q hq
  cases q with
  | nil => simp at hh
  | cons a q' =>
    simp only [List.head?_cons, Option.map_some, Option.some.injEq] at hh
    have : a ≠ c0 := by rintro rfl; exact h hh
    simp [isPrefix, this]

theorem punctuation_skip_of_head (pt : Option TC) (prev : Option Ch) {c0 : Ch} (r : Str)
    (h : catOf c0 ≠ .Letter) : runTk .punctuationCommandName pt prev (c0 :: r) = .skip 0 := by
  cases prev with
  | none => simp [runTk]
  | some p =>
    simp only [runTk, firstMatch_none_of_head r h]
    split <;> rfl

theorem commandName_skip_of_head (pt : Option TC) (prev : Option Ch) {c0 : Ch} (r : Str)
    (h : catOf c0 ≠ .Letter) : runTk .commandName pt prev (c0 :: r) = .skip 0 := by
  cases prev with
  | none => simp [runTk]
  | some p => simp [runTk, h]

def prevEsc : Option Ch → Bool
  | some p => catOf p == .Escape
  | none => false

theorem prevEsc_false {prev : Option Ch} (h : prevEsc prev = false) :
    ∀ p ∈ prev, catOf p ≠ .Escape := by
  intro p hp
  cases hp
  simpa [prevEsc] using h

theorem prevEsc_true {prev : Option Ch} (h : prevEsc prev = true) :
    ∃ p, prev = some p ∧ catOf p = .Escape := by
  cases prev with
  | none => simp [prevEsc] at h
  | some p => exact ⟨p, rfl, by simpa [prevEsc] using h⟩

/-- `first_text`: a non-empty run of non-stop characters whose first character is not ignored,
which `tokenize_spacers` leaves alone (`textSpacerOK`: no leading blank run, or the run is
followed inside the text by a `Letter`/`Other` character), which is not claimed by the name
tokenizers (not: `prev` an escape character and first character a letter), and which is
maximal (`w` is empty or starts with a stop character), is exactly one `Text` token. -/
theorem first_text (pt : Option TC) (prev : Option Ch) (pos : Nat) {text : Str} (w : Str)
    (hne : text ≠ []) (hall : ∀ c ∈ text, isStringStop (catOf c) = false)
    (hign : ∀ c ∈ text.head?, isIgnored (catOf c) = false)
    (hsp : textSpacerOK text = true)
    (hprev : prevEsc prev = true → ∀ c ∈ text.head?, catOf c ≠ .Letter)
    (hw : ∀ c ∈ w.head?, isStringStop (catOf c) = true) :
    pass Tables.tokenizerOrder pt ⟨prev, pos, text ++ w⟩ =
      .tok ⟨text, pos, .Text⟩ ⟨lastD text prev, pos + text.length, w⟩ := by
  obtain ⟨c0, nm, rfl⟩ := List.exists_cons_of_ne_nil hne
  have hs0 := hall c0 (by simp)
  have hi0 := hign c0 rfl
  have hR : (c0 :: nm) ++ w = c0 :: (nm ++ w) := rfl
  have hRne : (c0 :: nm) ++ w ≠ [] := by simp
  have hcat : catOf c0 ≠ .Escape ∧ catOf c0 ≠ .Comment ∧ catOf c0 ≠ .MathSwitch ∧
      symbolOf (catOf c0) = none := by
    cases h : catOf c0 <;> simp [h, isStringStop, symbolOf] at hs0 ⊢
  obtain ⟨k1, k2, k3, k4⟩ := hcat
  have e1 := escapedSymbols_skip pt prev c0 (nm ++ w) k1
  have e2 := comment_skip pt prev c0 (nm ++ w) k2
  have e3 := mathSymSwitch_skip pt prev c0 (nm ++ w) k3
  have e4 := mathAsymSwitch_skip pt prev c0 (nm ++ w) k1
  have e5 := lineBreak_skip pt prev c0 (nm ++ w) k1
  have e6 := ignore_skip pt prev c0 (nm ++ w) hi0
  have e7 := spacers_skip_of_ok pt prev hsp hw
  have e8 := symbols_skip pt prev c0 (nm ++ w) k4
  have e9 : runTk .punctuationCommandName pt prev (c0 :: (nm ++ w)) = .skip 0 := by
    cases hpe : prevEsc prev with
    | false => exact punctuation_skip_of_prev pt prev (prevEsc_false hpe) _
    | true => exact punctuation_skip_of_head pt prev _ (hprev hpe c0 rfl)
  have e10 : runTk .commandName pt prev (c0 :: (nm ++ w)) = .skip 0 := by
    cases hpe : prevEsc prev with
    | false => exact commandName_skip_of_prev pt prev (prevEsc_false hpe) _
    | true => exact commandName_skip_of_head pt prev _ (hprev hpe c0 rfl)
  rw [← hR] at e1 e2 e3 e4 e5 e6 e8 e9 e10
  have hcount : countWhile (fun x => !isStringStop (catOf x)) ((c0 :: nm) ++ w) =
      (c0 :: nm).length :=
    countWhile_append_of_head (fun x hx => by simp [hall x hx])
      (fun c hc => by simp [hw c hc])
  have e11 : runTk .string pt prev ((c0 :: nm) ++ w) = .tok (c0 :: nm).length .Text := by
    simp only [runTk, hcount]
    simp
  rw [Tables.tokenizerOrder, pass_cons_of_skip e1 hRne, pass_cons_of_skip e2 hRne,
    pass_cons_of_skip e3 hRne, pass_cons_of_skip e4 hRne, pass_cons_of_skip e5 hRne,
    pass_cons_of_skip e6 hRne, pass_cons_of_skip e7 hRne, pass_cons_of_skip e8 hRne,
    pass_cons_of_skip e9 hRne, pass_cons_of_skip e10 hRne, pass_cons_of_tok e11, adv_append,
    List.take_left' rfl]

/-- `1 y` after `\\` (so `prev` is an escape character but the text starts with a digit),
followed by `{`. -/
example : ([49, 32, 121] : Str) ≠ [] ∧
    (∀ c ∈ ([49, 32, 121] : Str), isStringStop (catOf c) = false) ∧
    (∀ c ∈ ([49, 32, 121] : Str).head?, isIgnored (catOf c) = false) ∧
    textSpacerOK [49, 32, 121] = true ∧
    (prevEsc (some 92) = true → ∀ c ∈ ([49, 32, 121] : Str).head?, catOf c ≠ .Letter) ∧
    (∀ c ∈ ([123] : Str).head?, isStringStop (catOf c) = true) := by decide +kernel

/-- `first_spacer`: a non-empty text that is exactly what `tokenize_spacers` walks over
(blanks, at most one end of line, blanks: `spacerRun (text ++ w) = text.length`) and is not
followed by a `Letter`/`Other` character is exactly one `MergedSpacer` token. -/
theorem first_spacer (pt : Option TC) (prev : Option Ch) (pos : Nat) {text : Str} (w : Str)
    (hne : text ≠ []) (hrun : spacerRun (text ++ w) = text.length)
    (hw : ∀ c ∈ w.head?, catOf c ≠ .Letter ∧ catOf c ≠ .Other) :
    pass Tables.tokenizerOrder pt ⟨prev, pos, text ++ w⟩ =
      .tok ⟨text, pos, .MergedSpacer⟩ ⟨lastD text prev, pos + text.length, w⟩ := by
  obtain ⟨c0, nm, rfl⟩ := List.exists_cons_of_ne_nil hne
  have hR : (c0 :: nm) ++ w = c0 :: (nm ++ w) := rfl
  have hRne : (c0 :: nm) ++ w ≠ [] := by simp
  have hhead : catOf c0 = .Spacer ∨ catOf c0 = .EndOfLine := by
    by_cases h1 : catOf c0 = .Spacer
    · exact Or.inl h1
    · by_cases h2 : catOf c0 = .EndOfLine
      · exact Or.inr h2
      · have := spacerRun_zero c0 (nm ++ w) h1 h2
        rw [← hR, hrun] at this
        simp at this
  have hcat : catOf c0 ≠ .Escape ∧ catOf c0 ≠ .Comment ∧ catOf c0 ≠ .MathSwitch ∧
      isIgnored (catOf c0) = false := by
    rcases hhead with h | h <;> simp [h, isIgnored]
  obtain ⟨k1, k2, k3, k4⟩ := hcat
  have e1 := escapedSymbols_skip pt prev c0 (nm ++ w) k1
  have e2 := comment_skip pt prev c0 (nm ++ w) k2
  have e3 := mathSymSwitch_skip pt prev c0 (nm ++ w) k3
  have e4 := mathAsymSwitch_skip pt prev c0 (nm ++ w) k1
  have e5 := lineBreak_skip pt prev c0 (nm ++ w) k1
  have e6 := ignore_skip pt prev c0 (nm ++ w) k4
  rw [← hR] at e1 e2 e3 e4 e5 e6
  have e7 : runTk .spacers pt prev ((c0 :: nm) ++ w) = .tok (c0 :: nm).length .MergedSpacer := by
    rw [runTk_spacers_eq, hrun, List.drop_left' rfl, headIsLO_eq_false_iff.2 hw]
    simp
  rw [Tables.tokenizerOrder, pass_cons_of_skip e1 hRne, pass_cons_of_skip e2 hRne,
    pass_cons_of_skip e3 hRne, pass_cons_of_skip e4 hRne, pass_cons_of_skip e5 hRne,
    pass_cons_of_skip e6 hRne, pass_cons_of_tok e7, adv_append, List.take_left' rfl]

/-- blank, newline, tab in front of `\n{`: the second newline is not part of the run. -/
example : ([32, 10, 9] : Str) ≠ [] ∧
    spacerRun (([32, 10, 9] : Str) ++ [10, 123]) = ([32, 10, 9] : Str).length ∧
    (∀ c ∈ ([10, 123] : Str).head?, catOf c ≠ .Letter ∧ catOf c ≠ .Other) := by decide +kernel

/-- The seventeen token categories the tokenizer can emit. -/
def liveCat : TC → Bool
  | .LineBreak | .SizeCommand | .Spacer | .ParenBegin | .ParenEnd => false
  | _ => true

theorem Emits.live {k : TkName} {prev : Option Ch} {rest : Str} {n : Nat} {c : TC}
    (hk : k ≠ .lineBreak) (h : Emits k prev rest n c) : liveCat c = true := by
  cases h with
  | lineBreak => exact absurd rfl hk
  | asym _ ha => rcases asymSwitch_eq_some ha with ⟨_, rfl⟩ | ⟨_, rfl⟩ | ⟨_, rfl⟩ | ⟨_, rfl⟩ <;> rfl
  | symbol hs =>
    rcases symbolOf_eq_some hs with ⟨_, rfl⟩ | ⟨_, rfl⟩ | ⟨_, rfl⟩ | ⟨_, rfl⟩ | ⟨_, rfl⟩ <;> rfl
  | _ => rfl

/-- `tokenize_line_break` is dead code: `\\` is always claimed by `escaped_symbols` first. -/
theorem lineBreak_dead {pt : Option TC} {prev : Option Ch} {rest : Str} {m n : Nat} {c : TC}
    (he : runTk .escapedSymbols pt prev rest = .skip m)
    (hl : runTk .lineBreak pt prev rest = .tok n c) : False := by
  cases Emits.of_tok hl with
  | lineBreak h0 h1 => simp [runTk, h0, h1, isEscapable] at he

theorem pass_cons_tok_cases {k : TkName} {ks : List TkName} {pt : Option TC} {st st' : TSt}
    {t : Tok} (hk : k ≠ .ignore) (h : pass (k :: ks) pt st = .tok t st') :
    (∃ n, runTk k pt st.prev st.rest = .tok n t.cat) ∨
    ((∃ m, runTk k pt st.prev st.rest = .skip m) ∧ pass ks pt st = .tok t st') := by
  simp only [pass] at h
  split at h
  · rename_i n c hr
    cases h
    exact Or.inl ⟨n, hr⟩
  · rename_i m hr
    have := runTk_skip_zero hk hr
    subst this
    simp only [TSt.adv_zero] at h
    split at h
    · cases h
    · exact Or.inr ⟨⟨0, hr⟩, h⟩

theorem pass_live {pt : Option TC} {st st' : TSt} {t : Tok}
    (h : pass Tables.tokenizerOrder pt st = .tok t st') : liveCat t.cat = true := by
  rw [Tables.tokenizerOrder] at h
  rcases pass_cons_tok_cases (by decide) h with ⟨n, h1⟩ | ⟨⟨m, he⟩, h⟩
  · exact (Emits.of_tok h1).live (by decide)
  rcases pass_cons_tok_cases (by decide) h with ⟨n, h1⟩ | ⟨_, h⟩
  · exact (Emits.of_tok h1).live (by decide)
  rcases pass_cons_tok_cases (by decide) h with ⟨n, h1⟩ | ⟨_, h⟩
  · exact (Emits.of_tok h1).live (by decide)
  rcases pass_cons_tok_cases (by decide) h with ⟨n, h1⟩ | ⟨_, h⟩
  · exact (Emits.of_tok h1).live (by decide)
  rcases pass_cons_tok_cases (by decide) h with ⟨n, h1⟩ | ⟨_, h⟩
  · exact (lineBreak_dead he h1).elim
  obtain ⟨k, hk, _, _, _, he, _⟩ := pass_tok_emits h
  refine he.live ?_
  rintro rfl
  simp at hk

end TexSoup
