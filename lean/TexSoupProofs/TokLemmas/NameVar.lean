import TexSoupProofs.TokLemmas.NextChar
/-!
# Changing the text of name tokens keeps a token list separated

`NVar ts ts'`: `ts'` is `ts` with the text of some tokens replaced – of a token after a
backslash whose text is a command name (`goodName`: a letter, then letters or `*`) by another
command name that is no sizing prefix, or of a token after an opening brace whose text starts
with a letter by a text that can stand as one text token (`goodText`). If `ts` is `Separated`
and no command-name token is a bare sizing prefix, then `ts'` is `Separated`
(`NVar.separated`):

 * the renamed command-name token still follows a backslash, consists of name characters, ends
   where the old one ended (the next character is the same non-name character) and starts no
   sizing command; the backslash in front of it is still followed by a letter;
 * the renamed text token still follows the brace (which is no backslash), contains no character
   at which a text ends, and is followed by the same character;
 * every other token sees the same next character; a command name in front is no sizing prefix,
   so that no sizing command can start there whatever follows; the token after a renamed one is
   preceded by a character that is no backslash, as before.
-/
namespace TexSoup

theorem separated_prevEsc {prev prev' : Option Ch} {ts : List Tok} (h : Separated prev ts)
    (hp : prevEsc prev' = prevEsc prev) : Separated prev' ts := by
  cases ts with
  | nil => trivial
  | cons t r =>
    obtain ⟨hne, hok, hr⟩ := h
    refine ⟨hne, hok.congr hp rfl (fun _ => rfl) (fun _ => rfl), ?_⟩
    rw [lastD_congr_default prev' prev hne]; exact hr

def goodName : Str → Bool
  | c :: body => isLetterCh c && body.all nameCh
  | [] => false

/-- a text that is one `Text` token wherever it follows something that is no backslash and is
followed by a character at which texts end -/
def goodText : Str → Bool
  | c :: body => !isIgnored (catOf c) && (c :: body).all (fun x => !isStringStop (catOf x))
      && textSpacerOK (c :: body)
  | [] => false

theorem goodName_spec {s : Str} (h : goodName s = true) :
    ∃ c body, s = c :: body ∧ catOf c = .Letter ∧ (∀ x ∈ body, nameCh x = true) ∧ ∀ x ∈ s, nameCh x = true := by
  cases s with
  | nil => simp [goodName] at h
  | cons c body =>
    simp only [goodName, Bool.and_eq_true, List.all_eq_true, isLetterCh, beq_iff_eq] at h
    refine ⟨c, body, rfl, h.1, h.2, ?_⟩
    intro x hx
    rcases List.mem_cons.1 hx with rfl | hx
    · simp [nameCh, isLetterCh, h.1]
    · exact h.2 x hx

theorem goodText_spec {s : Str} (h : goodText s = true) :
    s ≠ [] ∧ (∀ c ∈ s, isStringStop (catOf c) = false) ∧
      (∀ c ∈ s.head?, isIgnored (catOf c) = false) ∧ textSpacerOK s = true := by
  cases s with
  | nil => simp [goodText] at h
  | cons c body =>
    simp only [goodText, Bool.and_eq_true, Bool.not_eq_true', List.all_eq_true] at h
    exact ⟨by simp, h.1.2, fun _ hx => by cases hx; exact h.1.1, h.2⟩

theorem tokOK_goodText {prev : Option Ch} {tk : Tok} {w : Str} (hc : tk.cat = .Text)
    (hg : goodText tk.text = true) (hp : prevEsc prev = false)
    (hw : ∀ c ∈ w.head?, isStringStop (catOf c) = true) : TokOK prev tk w := by
  obtain ⟨hne, hall, hign, hsp⟩ := goodText_spec hg
  unfold TokOK
  rw [hc]
  exact text_before_stop 0 hne hall hign hsp (fun h => by rw [hp] at h; cases h) hw

theorem nameCh_not_escape {c : Ch} (h : nameCh c = true) : catOf c ≠ .Escape := by
  simp only [nameCh, isLetterCh, Bool.or_eq_true, beq_iff_eq] at h
  rcases h with h | h
  · rw [h]; decide
  · rw [h]; decide

theorem prevEsc_lastD_of_all : ∀ (l : Str) (d : Option Ch), l ≠ [] → (∀ c ∈ l, catOf c ≠ .Escape) →
    prevEsc (lastD l d) = false
  | [], _, h, _ => absurd rfl h
  | [c], d, _, hall => by
      have := hall c (by simp)
      simp [lastD, prevEsc, this]
  | c :: c2 :: r, d, _, hall => by
      simp only [lastD]
      exact prevEsc_lastD_of_all (c2 :: r) (some c) (by simp) (fun x hx => hall x (by simp [hx]))

theorem prevEsc_after_text {s : Str} (d : Option Ch) (hne : s ≠ [])
    (h : ∀ c ∈ s, isStringStop (catOf c) = false) : prevEsc (lastD s d) = false :=
  prevEsc_lastD_of_all s d hne fun x hx hxe => by
    have := h x hx
    rw [hxe] at this
    cases this

theorem prevEsc_after_delim {prev : Option Ch} {l : Tok} {w : Str} (h : TokOK prev l w)
    (hl : l.cat = .GroupBegin ∨ l.cat = .BracketBegin ∨ l.cat = .GroupEnd) :
    prevEsc (lastD l.text prev) = false := by
  unfold TokOK at h
  rcases hl with hc | hc | hc <;> rw [hc] at h <;> obtain ⟨c0, ht, h0⟩ := txtOne_iff.1 h <;>
    simp [ht, lastD, prevEsc, h0]

theorem cat_of_letter_start {prev : Option Ch} {t : Tok} {w : Str} (h : TokOK prev t w)
    (hl : ∃ c b, t.text = c :: b ∧ catOf c = .Letter) :
    (t.cat = .Text ∧ prevEsc prev = false) ∨ (t.cat = .CommandName ∧ prevEsc prev = true) ∨
      (t.cat = .PunctuationCommandName ∧ prevEsc prev = true) := by
  obtain ⟨c, b, htx, hcl⟩ := hl
  obtain ⟨c0, r, ht, hh⟩ := h.head
  rw [htx] at ht
  cases ht
  rw [hcl] at hh
  cases hc : t.cat <;> rw [hc] at hh <;> simp only [HeadCat, reduceCtorEq, or_self] at hh
  case CommandName => exact .inr (.inl ⟨rfl, hh.2⟩)
  case PunctuationCommandName => exact .inr (.inr ⟨rfl, hh.2⟩)
  case Text =>
    refine .inl ⟨rfl, ?_⟩
    cases hp : prevEsc prev with
    | false => rfl
    | true => exact absurd rfl (hh.2.2 hp)

theorem punctuation_not_goodName {s : Str} (h : s ∈ Tables.punctuationCommands)
    (hall : ∀ x ∈ s, nameCh x = true) : False := by
  obtain ⟨A, _, D, rfl, _, d, D', rfl, hd⟩ := punctuationCommands_split s h
  have := hall d (by simp)
  rw [hd] at this; cases this

inductive NVar : List Tok → List Tok → Prop
  | nil : NVar [] []
  | same (t : Tok) {r r' : List Tok} : NVar r r' → NVar (t :: r) (t :: r')
  /-- the name token of a command -/
  | name (esc n n' : Tok) {r r' : List Tok} : esc.cat = .Escape → n'.cat = n.cat →
      goodName n.text = true → goodName n'.text = true → n'.text ∉ Tables.sizePrefix →
      NVar r r' → NVar (esc :: n :: r) (esc :: n' :: r')
  /-- the name token inside the braces after `\begin` / `\end` -/
  | envn (o nt nt' : Tok) {r r' : List Tok} : o.cat = .GroupBegin → nt'.cat = nt.cat →
      (∃ c b, nt.text = c :: b ∧ catOf c = .Letter) → goodText nt'.text = true →
      NVar r r' → NVar (o :: nt :: r) (o :: nt' :: r')

theorem NVar.refl : ∀ ts : List Tok, NVar ts ts
  | [] => .nil
  | t :: r => .same t (NVar.refl r)

theorem NVar.append {a a' b b' : List Tok} (h1 : NVar a a') (h2 : NVar b b') : NVar (a ++ b) (a' ++ b') := by
  induction h1 with
  | nil => exact h2
  | same t _ ih => exact .same t ih
  | name esc n n' h3 h4 h5 h6 h7 _ ih => exact .name esc n n' h3 h4 h5 h6 h7 ih
  | envn o nt nt' h3 h4 h5 h6 _ ih => exact .envn o nt nt' h3 h4 h5 h6 ih

/-- The first token is never a relabelled one: the texts start with the same character. -/
theorem NVar.head {prev : Option Ch} {ts ts' : List Tok} (h : NVar ts ts') (hs : Separated prev ts) :
    (flat ts').head? = (flat ts).head? := by
  cases h with
  | nil => rfl
  | same t _ => rw [flat_head_cons t _ hs.1, flat_head_cons t _ hs.1]
  | name esc n n' _ _ _ _ _ _ => rw [flat_head_cons esc _ hs.1, flat_head_cons esc _ hs.1]
  | envn o nt nt' _ _ _ _ _ => rw [flat_head_cons o _ hs.1, flat_head_cons o _ hs.1]

theorem text_after_brace {prev : Option Ch} {o nt : Tok} {r : List Tok}
    (hs : Separated prev (o :: nt :: r)) (ho : o.cat = .GroupBegin)
    (hl : ∃ c b, nt.text = c :: b ∧ catOf c = .Letter) : nt.cat = .Text := by
  obtain ⟨_, hok, _, hnok, _⟩ := hs
  have hpe := prevEsc_after_delim hok (.inl ho)
  rcases cat_of_letter_start hnok hl with ⟨hc, _⟩ | ⟨_, hp⟩ | ⟨_, hp⟩
  · exact hc
  · rw [hpe] at hp; cases hp
  · rw [hpe] at hp; cases hp

theorem NVar.separated {ts ts' : List Tok} (h : NVar ts ts') : ∀ {prev : Option Ch},
    Separated prev ts → (∀ t ∈ ts, t.cat = .CommandName → t.text ∉ Tables.sizePrefix) →
    Separated prev ts' := by
  induction h with
  | nil => intro _ _ _; trivial
  | @same t r r' hr ih =>
    intro prev hs hns
    obtain ⟨hne, hok, hrest⟩ := hs
    have hh := hr.head hrest
    exact ⟨hne, hok.of_head hh (hns t List.mem_cons_self),
      ih hrest (fun u hu => hns u (List.mem_cons_of_mem _ hu))⟩
  | @name esc n n' r r' hesc hcat hgood hgood' hsz hr ih =>
    intro prev hs hns
    obtain ⟨hne, hok, hrest⟩ := hs
    obtain ⟨hnne, hnok, hrest2⟩ := hrest
    have hh := hr.head hrest2
    obtain ⟨c, body, htx, hcl, _, hall⟩ := goodName_spec hgood
    obtain ⟨c', body', htx', hcl', hbody', hall'⟩ := goodName_spec hgood'
    have hesc' := hok
    unfold TokOK at hesc'
    rw [hesc] at hesc'
    simp only [TokOK'] at hesc'
    obtain ⟨c0, ht0, h0, _⟩ := txtOne_iff.1 hesc'
    have hpe : prevEsc (lastD esc.text prev) = true := by simp [ht0, lastD, prevEsc, h0]
    have hokesc : TokOK prev esc (flat (n' :: r')) := by
      unfold TokOK
      rw [hesc, ht0]
      simp only [TokOK', TxtOne]
      refine ⟨h0, ?_⟩
      intro c1 hc1
      simp only [flat, htx', List.cons_append, List.head?_cons, Option.mem_def, Option.some.injEq] at hc1
      subst hc1
      rw [hcl']; exact ⟨rfl, rfl⟩
    have hncat : n.cat = .CommandName := by
      rcases cat_of_letter_start hnok ⟨c, body, htx, hcl⟩ with ⟨_, hp⟩ | ⟨hc, _⟩ | ⟨hc, _⟩
      · rw [hpe] at hp; cases hp
      · exact hc
      · exfalso
        unfold TokOK at hnok
        rw [hc] at hnok
        simp only [TokOK'] at hnok
        exact punctuation_not_goodName hnok.2 hall
    have hold := hnok
    unfold TokOK at hold
    rw [hncat] at hold
    simp only [TokOK'] at hold
    obtain ⟨_, _, hw, _⟩ := hold
    have hokn : TokOK (lastD esc.text prev) n' (flat r') := by
      unfold TokOK
      rw [hcat, hncat]
      simp only [TokOK']
      refine ⟨hpe, ?_, by rw [hh]; exact hw, ?_⟩
      · rw [htx']
        exact ⟨hcl', fun x hx => by have := hbody' x hx; simpa [nameCh] using this⟩
      · exact firstMatch_none_of_not_sizing hall' (by rw [hh]; exact hw) hsz
    have hne' : n'.text ≠ [] := by rw [htx']; simp
    refine ⟨hne, hokesc, hne', hokn, ?_⟩
    have hrec := ih hrest2 (fun u hu => hns u (List.mem_cons_of_mem _ (List.mem_cons_of_mem _ hu)))
    refine separated_prevEsc hrec ?_
    rw [prevEsc_lastD_of_all n'.text _ hne' (fun x hx => nameCh_not_escape (hall' x hx)),
      prevEsc_lastD_of_all n.text _ hnne (fun x hx => nameCh_not_escape (hall x hx))]
  | @envn o nt nt' r r' ho hcat hletter hgood' hr ih =>
    intro prev hs hns
    obtain ⟨hne, hok, hrest⟩ := hs
    obtain ⟨hnne, hnok, hrest2⟩ := hrest
    have hh := hr.head hrest2
    have hpe := prevEsc_after_delim hok (.inl ho)
    have hoko : TokOK prev o (flat (nt' :: r')) := by
      unfold TokOK at hok ⊢
      rw [ho] at hok ⊢
      exact hok
    -- the name is a text token, and so is the new one
    have hntcat := text_after_brace ⟨hne, hok, hnne, hnok, hrest2⟩ ho hletter
    have hold := hnok
    unfold TokOK at hold
    rw [hntcat] at hold
    obtain ⟨_, hstopOld, _, hw⟩ := hold
    obtain ⟨hne', hstop, _, _⟩ := goodText_spec hgood'
    refine ⟨hne, hoko, hne', tokOK_goodText (hcat.trans hntcat) hgood' hpe (by rw [hh]; exact hw), ?_⟩
    refine separated_prevEsc
      (ih hrest2 fun u hu => hns u (List.mem_cons_of_mem _ (List.mem_cons_of_mem _ hu))) ?_
    rw [prevEsc_after_text _ hne' hstop, prevEsc_after_text _ hnne hstopOld]

theorem NVar.noBare {ts ts' : List Tok} (h : NVar ts ts') : ∀ {prev : Option Ch},
    Separated prev ts → (∀ t ∈ ts, t.cat = .CommandName → t.text ∉ Tables.sizePrefix) →
    ∀ t ∈ ts', t.cat = .CommandName → t.text ∉ Tables.sizePrefix := by
  induction h with
  | nil => intro _ _ _ t ht; cases ht
  | @same t r r' _ ih =>
    intro prev hs hns u hu
    rcases List.mem_cons.1 hu with rfl | hu
    · exact hns u List.mem_cons_self
    · exact ih hs.2.2 (fun v hv => hns v (List.mem_cons_of_mem _ hv)) u hu
  | @name esc n n' r r' _ _ _ _ hsz _ ih =>
    intro prev hs hns u hu
    rcases List.mem_cons.1 hu with rfl | hu
    · exact hns u List.mem_cons_self
    · rcases List.mem_cons.1 hu with rfl | hu
      · exact fun _ => hsz
      · exact ih hs.2.2.2.2 (fun v hv => hns v (List.mem_cons_of_mem _ (List.mem_cons_of_mem _ hv))) u hu
  | @envn o nt nt' r r' ho hcat hl _ _ ih =>
    intro prev hs hns u hu
    rcases List.mem_cons.1 hu with rfl | hu
    · exact hns u List.mem_cons_self
    · rcases List.mem_cons.1 hu with rfl | hu
      · intro hc
        have := text_after_brace hs ho hl
        rw [hcat, this] at hc; cases hc
      · exact ih hs.2.2.2.2 (fun v hv => hns v (List.mem_cons_of_mem _ (List.mem_cons_of_mem _ hv))) u hu

end TexSoup
