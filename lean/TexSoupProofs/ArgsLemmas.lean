import TexSoupModel.Args
import TexSoupProofs.ArgsSpec
/-!
# Lemmas about the `TexArgs` model

The built-in list primitives (`pyInsert`, `pyIndex`, `pySlice`, `idxOfTxt`) as splices
(`insertIdx`, `eraseIdx`, `take`/`drop`, `findIdx?`) and against the specification; coercion;
then what each method does to the list and to `.all` on a state satisfying the invariant
`Inv`: `insert` splices the value into both, `remove` and `pop` erase an item and the entry of
`.all` that is it, `extend` is a loop of `insert`s. `StepOK` says what one step has to satisfy
against the list, `step_char` that every operation does. Used by
`TexSoupProofs/Properties/C18.lean`.
-/
namespace TexSoup
namespace ArgsLemmas
open ArgsSpec

theorem insertIdx_eq_take_drop {α : Type} (l : List α) (k : Nat) (x : α) (h : k ≤ l.length) :
    l.insertIdx k x = l.take k ++ x :: l.drop k := by
  induction l generalizing k with
  | nil => simp at h; subst h; simp
  | cons a r ih =>
    cases k with
    | zero => simp
    | succ k => simp at h; simp [List.insertIdx_succ_cons, ih k h]

theorem countP_insertIdx {α : Type} (p : α → Bool) (l : List α) (k : Nat) (x : α)
    (h : k ≤ l.length) :
    (l.insertIdx k x).countP p = l.countP p + if p x then 1 else 0 := by
  rw [(List.perm_insertIdx x l h).countP_eq, List.countP_cons]

theorem countP_eraseIdx {α : Type} (p : α → Bool) (l : List α) (k : Nat) (h : k < l.length) :
    l.countP p = (l.eraseIdx k).countP p + if p l[k] then 1 else 0 := by
  conv => lhs; rw [← List.take_append_drop k l, ← List.getElem_cons_drop h]
  rw [List.eraseIdx_eq_take_drop_succ, List.countP_append, List.countP_cons, List.countP_append,
    Nat.add_assoc]

theorem idxOfTxt_eq_findIdx? {α : Type} (f : α → Str) (t : Str) (l : List α) :
    idxOfTxt f t l = l.findIdx? (fun a => f a = t) := by
  induction l with
  | nil => rfl
  | cons a r ih => simp only [idxOfTxt, List.findIdx?_cons, ih, decide_eq_true_eq]

theorem idxOfId_eq_findIdx? (id : Oid) (l : List ArgItem) :
    idxOfId id l = l.findIdx? (ArgItem.isObj id) := by
  induction l with
  | nil => rfl
  | cons a r ih => simp only [idxOfId, List.findIdx?_cons, ih]

theorem idxOfTxt_some {α : Type} (f : α → Str) (t : Str) (l : List α) (j : Nat)
    (h : idxOfTxt f t l = some j) : ∃ hj : j < l.length, f l[j] = t := by
  rw [idxOfTxt_eq_findIdx?, List.findIdx?_eq_some_iff_getElem] at h
  exact ⟨h.1, of_decide_eq_true h.2.1⟩

theorem idxOfTxt_isSome_of_mem {α : Type} (f : α → Str) (t : Str) (l : List α)
    (h : t ∈ l.map f) : ∃ j, idxOfTxt f t l = some j := by
  obtain ⟨a, ha, rfl⟩ := List.mem_map.mp h
  rw [idxOfTxt_eq_findIdx?]
  exact ⟨_, List.findIdx?_eq_some_of_exists ⟨a, ha, decide_eq_true rfl⟩⟩

theorem indexAll_of_pos (o : Obj) (all : List ArgItem)
    (h : 0 < all.countP (ArgItem.isObj o.id)) :
    ∃ j, indexAll o all = some j ∧ ∃ hj : j < all.length, all[j].isObj o.id = true := by
  have hj := List.findIdx?_eq_some_of_exists (List.countP_pos_iff.mp h)
  obtain ⟨hlt, hp, _⟩ := List.findIdx?_eq_some_iff_getElem.mp hj
  exact ⟨_, by simp only [indexAll, idxOfId_eq_findIdx?, hj], hlt, hp⟩

theorem isObj_eq_of_isObj {it : ArgItem} {a : Oid} (h : it.isObj a = true) (id : Oid) :
    it.isObj id = (a == id) := by
  cases it with
  | ws s => cases h
  | grp o => exact congrArg (· == id) (of_decide_eq_true h : o.id = a)

theorem pyClampInsert_le (n : Nat) (i : Int) : pyClampInsert n i ≤ n := by
  unfold pyClampInsert
  split
  · omega
  · exact Nat.min_le_right _ _

/-- The clamped index of the repaired `insert`, as a natural number. -/
theorem clamp_cast (n : Nat) (i : Int) :
    (if i < 0 then max ((n : Int) + i) 0 else min i (n : Int))
      = ((pyClampInsert n i : Nat) : Int) := by
  unfold pyClampInsert
  split
  · exact (Int.toNat_of_nonneg (Int.le_max_right _ _)).symm
  · next h =>
    obtain ⟨m, rfl⟩ := Int.eq_ofNat_of_zero_le (Int.not_lt.mp h)
    rw [Int.toNat_natCast]
    omega

theorem pyClampInsert_cast (n k : Nat) (h : k ≤ n) : pyClampInsert n (k : Int) = k := by
  unfold pyClampInsert
  rw [if_neg (Int.not_lt.mpr (Int.natCast_nonneg k)), Int.toNat_natCast, Nat.min_eq_left h]

/-- Clamping is idempotent: `list.insert` re-clamping the already clamped index of the
repaired code changes nothing. -/
theorem pyClampInsert_clamped (n : Nat) (i : Int) :
    pyClampInsert n (if i < 0 then max ((n : Int) + i) 0 else min i n) = pyClampInsert n i := by
  rw [clamp_cast]
  exact pyClampInsert_cast n _ (pyClampInsert_le n i)

theorem pyClampInsert_len (n : Nat) : pyClampInsert n (n : Int) = n :=
  pyClampInsert_cast n n (Nat.le_refl n)

theorem pyInsert_eq_spec (l : List Obj) (i : Int) (e : Obj) :
    pyInsert l i e = specInsert l i e := by
  unfold pyInsert specInsert
  rw [insertIdx_eq_take_drop _ _ _ (pyClampInsert_le _ _)]
  unfold pyClampInsert
  rw [← Int.toNat_eq_max, Int.toNat_natCast]

theorem pyIndex_lt {n : Nat} {i : Int} {k : Nat} (h : pyIndex n i = some k) : k < n := by
  unfold pyIndex at h
  split at h <;> split at h <;> cases h
  · omega
  · next h1 h2 => exact (Int.toNat_lt (Int.not_lt.mp h1)).mpr h2

theorem pyIndex_eq_spec (n : Nat) (i : Int) : pyIndex n i = specIdx n i := by
  unfold pyIndex specIdx
  by_cases h : i < 0
  · simp only [if_pos h]
    by_cases h2 : -i ≤ (n : Int)
    · rw [if_pos h2, if_pos (by omega), Int.add_comm]
    · rw [if_neg h2, if_neg (by omega)]
  · simp only [if_neg h]
    by_cases h2 : i < (n : Int)
    · rw [if_pos h2, if_pos ⟨Int.not_lt.mp h, h2⟩]
    · rw [if_neg h2, if_neg (fun h3 => h2 h3.2)]

theorem pyGet_natCast {α : Type} (l : List α) (k : Nat) : pyGet l (k : Int) = l[k]? := by
  unfold pyGet pyIndex
  rw [if_neg (Int.not_lt.mpr (Int.natCast_nonneg k))]
  by_cases h : (k : Int) < l.length
  · rw [if_pos h]; rfl
  · rw [if_neg h]; exact (List.getElem?_eq_none (by omega)).symm

theorem pyGet_neg_one {α : Type} (l : List α) : pyGet l (-1) = l.getLast? := by
  cases l with
  | nil => rfl
  | cons a r =>
    have h : pyIndex (r.length + 1) (-1) = some r.length := by
      unfold pyIndex
      rw [if_pos (by decide), if_pos (by omega)]
      exact congrArg some (by omega)
    rw [pyGet, List.length_cons, h, List.getLast?_eq_getElem?]
    rfl

theorem pySliceBound_eq_spec (n d : Nat) (b : Option Int) :
    pySliceBound n d b = (b.map (specBound n)).getD d := by
  cases b with
  | none => rfl
  | some i =>
    simp only [pySliceBound, specBound, Option.map, Option.getD]
    rw [← Int.toNat_eq_max, Int.toNat_natCast, Int.add_comm]

theorem pySlice_eq_spec (l : List Obj) (lo hi : Option Int) :
    pySlice l lo hi = specSlice l lo hi := by
  simp only [pySlice, specSlice, pySliceBound_eq_spec, List.drop_take]

theorem specRemove_eq (t : Str) (l : List Obj) :
    specRemove t l = (idxOfTxt (fun o : Obj => ser o.e) t l).map (l.eraseIdx ·) := by
  induction l with
  | nil => rfl
  | cons a r ih =>
    by_cases h : ser a.e = t
    · simp [specRemove, idxOfTxt, h]
    · simp only [specRemove, idxOfTxt, h, if_false, ih]
      cases idxOfTxt (fun o : Obj => ser o.e) t r <;> simp

theorem serL_eq_flatten (l : List Obj) :
    serL (l.map Obj.e) = (l.map fun o => ser o.e).flatten := by
  induction l with
  | nil => rfl
  | cons a r ih => simp [serL, ih]

theorem isPrefix_single (c : Ch) (s : Str) : isPrefix [c] s = (s.head? == some c) := by
  cases s with
  | nil => rfl
  | cons b l =>
    simp only [isPrefix, List.head?_cons, Bool.and_true, Option.some_beq_some, BEq.comm (a := c)]

theorem endsWith_single (c : Ch) (s : Str) : endsWith [c] s = (s.getLast? == some c) := by
  rw [endsWith, List.reverse_singleton, isPrefix_single, List.head?_reverse]

/-- One round of the loop of `TexGroup.parse`, for delimiters that are single, different
characters: `s[1:-1]` is then the inside. -/
theorem parseGroupWith_cons (k : GKind) (ks : List GKind) (o c : Ch) (ho : k.open = [o])
    (hc : k.close = [c]) (hoc : c ≠ o) (a : Ch) (t : Str) :
    parseGroupWith (k :: ks) (a :: t) =
      if a = o ∧ t.getLast? = some c then some (.group k [.text t.dropLast (-1)] (-1))
      else parseGroupWith ks (a :: t) := by
  have hslice : (List.take t.length (a :: t)).tail = t.dropLast := by
    cases t with
    | nil => rfl
    | cons b u => simp [List.dropLast_eq_take]
  rw [parseGroupWith, ho, hc, isPrefix_single, endsWith_single]
  simp only [List.length_cons, List.length_nil, Nat.zero_add, Nat.add_sub_cancel, List.drop_one,
    hslice, List.head?_cons, Bool.and_eq_true, beq_iff_eq, Option.some.injEq]
  by_cases h : a = o
  · subst h
    cases t with
    | nil => simp [hoc.symm]
    | cons b u => simp [List.getLast?_cons_cons]
  · simp [h]

theorem parseGroup_eq_spec (s : Str) : parseGroup s = specGroup s := by
  cases s with
  | nil => rfl
  | cons a t =>
    rw [parseGroup, allGKinds, parseGroupWith_cons .bracket _ 91 93 rfl rfl (by decide),
      parseGroupWith_cons .brace _ 123 125 rfl rfl (by decide), parseGroupWith]
    by_cases h1 : a = 91
    · subst h1; simp [specGroup]
    · by_cases h2 : a = 123
      · subst h2; simp [specGroup]
      · rw [if_neg (fun h => h1 h.1), if_neg (fun h => h2 h.1)]
        unfold specGroup
        split
        · next heq => exact absurd (List.head_eq_of_cons_eq heq) h1
        · next heq => exact absurd (List.head_eq_of_cons_eq heq) h2
        · rfl

theorem coerceStr_eq_spec (n : Nat) (s : Str) : coerceStr n s = specStr n s := by
  simp only [coerceStr, specStr, parseGroup_eq_spec]
  cases specGroup s <;> rfl

theorem coerce_eq_spec (n : Nat) (a : ArgIn) : coerce n a = specVal n a := by
  cases a with
  | str s => exact coerceStr_eq_spec n s
  | grp o =>
    rcases o with ⟨id, e⟩
    cases e <;> simp [coerce, specVal, coerceStr_eq_spec]

theorem listed_eq_spec (it : ArgItem) : listed it = specListed it := by
  cases it <;> rfl

theorem listed_some {it : ArgItem} {o : Obj} (h : listed it = some o) :
    it = .grp o ∧ isArgObj o.e = true := by
  cases it with
  | ws s => nomatch h
  | grp x =>
    simp only [listed] at h
    split at h
    · next hx => cases h; exact ⟨rfl, hx⟩
    · cases h

theorem coerce_grp_arg (n : Nat) {o : Obj} (he : isArgObj o.e = true) :
    coerce n (.grp o) = some (.grp o, n) := by
  rcases o with ⟨id, e⟩
  cases e <;> first | rfl | cases he

theorem inv_empty (n : Nat) : Inv (ArgsSt.empty n) :=
  ⟨nofun, fun _ => Nat.le_refl 0⟩

theorem inv_next {st : ArgsSt} (h : Inv st) (n : Nat) : Inv ⟨st.lst, st.all, n⟩ :=
  ⟨h.args, h.objs⟩

theorem inv_reverse {st : ArgsSt} (h : Inv st) (n : Nat) :
    Inv ⟨st.lst.reverse, st.all.reverse, n⟩ := by
  constructor
  · intro x hx; exact h.args x (List.mem_reverse.mp hx)
  · intro id
    simp only [List.countP_reverse]
    exact h.objs id

theorem obj_in_all {st : ArgsSt} (h : Inv st) {o : Obj} (ho : o ∈ st.lst) :
    0 < st.all.countP (ArgItem.isObj o.id) :=
  Nat.lt_of_lt_of_le (List.countP_pos_iff.mpr ⟨o, ho, beq_self_eq_true o.id⟩) (h.objs o.id)

def insLst (l : List Obj) (i : Int) (it : ArgItem) : List Obj :=
  match listed it with
  | some o => pyInsert l i o
  | none => l

theorem insLst_cases (l : List Obj) (i : Int) (it : ArgItem) :
    insLst l i it = l ∨ ∃ o, it = .grp o ∧ isArgObj o.e = true ∧
      insLst l i it = l.insertIdx (pyClampInsert l.length i) o := by
  unfold insLst
  cases h : listed it with
  | none => exact Or.inl rfl
  | some o =>
    exact Or.inr ⟨o, (listed_some h).1, (listed_some h).2, rfl⟩

theorem specInsertVal_eq (s : SpecSt) (i : Int) (a : ArgIn) :
    specInsertVal s i a =
      match coerce s.2 a with
      | none => (s, .typeError)
      | some (it, n) => ((insLst s.1 i it, n), .none) := by
  unfold specInsertVal insLst
  rw [coerce_eq_spec]
  cases specVal s.2 a with
  | none => rfl
  | some r =>
    rcases r with ⟨it, n⟩
    simp only [listed_eq_spec, pyInsert_eq_spec]; cases specListed it <;> rfl

theorem inv_insert {st : ArgsSt} (h : Inv st) (i : Int) (it : ArgItem) {m : Nat}
    (hm : m ≤ st.all.length) (n : Nat) : Inv ⟨insLst st.lst i it, st.all.insertIdx m it, n⟩ := by
  rcases insLst_cases st.lst i it with e | ⟨o, rfl, ho, e⟩ <;> rw [e]
  · refine ⟨h.args, fun id => Nat.le_trans (h.objs id) ?_⟩
    rw [countP_insertIdx _ _ _ _ hm]
    exact Nat.le_add_right _ _
  · have hk := pyClampInsert_le st.lst.length i
    refine ⟨fun x hx => ?_, fun id => ?_⟩
    · rcases (List.mem_insertIdx hk).mp hx with rfl | hx
      · exact ho
      · exact h.args x hx
    · simp only
      rw [countP_insertIdx _ _ _ _ hk, countP_insertIdx _ _ _ _ hm]
      exact Nat.add_le_add_right (h.objs id) _

theorem erase_ok {st : ArgsSt} (h : Inv st) {k : Nat} (hk : k < st.lst.length) :
    ∃ j, indexAll st.lst[k] st.all = some j ∧
      ∀ n, Inv ⟨st.lst.eraseIdx k, st.all.eraseIdx j, n⟩ := by
  obtain ⟨j, hj, hjlt, heq⟩ :=
    indexAll_of_pos st.lst[k] st.all (obj_in_all h (List.getElem_mem hk))
  refine ⟨j, hj, fun n => ⟨fun x hx => h.args x (List.mem_of_mem_eraseIdx hx), fun id => ?_⟩⟩
  have h1 := countP_eraseIdx (fun o : Obj => o.id == id) st.lst k hk
  have h2 := countP_eraseIdx (ArgItem.isObj id) st.all j hjlt
  rw [isObj_eq_of_isObj heq id] at h2
  have := h.objs id
  rw [h1, h2] at this
  exact Nat.le_of_add_le_add_right this

/-- `self[k - 1]` for `0 ≤ k ≤ len` on a non-empty list – the left neighbour, for `k = 0` the last
item – is an item of the list, and it is still `self[k - 1]` after `list.insert(k, e)`. -/
theorem pyGet_pred {α : Type} (l : List α) (k : Nat) (hk : k ≤ l.length) (hl : l ≠ []) :
    ∃ b ∈ l, pyGet l ((k : Int) - 1) = some b ∧
      ∀ e, pyGet (l.insertIdx k e) ((k : Int) - 1) = some b := by
  cases k with
  | zero =>
    refine ⟨l.getLast hl, List.getLast_mem hl, ?_, fun e => ?_⟩
    · exact (pyGet_neg_one l).trans (List.getLast?_eq_some_getLast hl)
    · rw [List.insertIdx_zero]
      exact (pyGet_neg_one _).trans
        ((List.getLast?_cons_of_ne_nil hl).trans (List.getLast?_eq_some_getLast hl))
  | succ k =>
    rw [show (((k + 1 : Nat) : Int) - 1) = (k : Int) by omega]
    refine ⟨l[k], List.getElem_mem hk, ?_, fun e => ?_⟩
    · rw [pyGet_natCast, List.getElem?_eq_getElem hk]
    · rw [pyGet_natCast, List.getElem?_insertIdx_of_lt (Nat.lt_succ_self k),
        List.getElem?_eq_getElem hk]

/-- What the book-keeping of `insert` looks up: in the list after the insertion, `self[k - 1]`
for the clamped index `k` is an item the list had before. -/
theorem insLst_pred (l : List Obj) (i : Int) (it : ArgItem) :
    pyClampInsert l.length i ≤ (insLst l i it).length ∧
    (2 ≤ (insLst l i it).length →
      ∃ b ∈ l, pyGet (insLst l i it) ((pyClampInsert l.length i : Nat) - 1) = some b) := by
  have hk := pyClampInsert_le l.length i
  rcases insLst_cases l i it with e | ⟨o, _, _, e⟩ <;> rw [e]
  · refine ⟨hk, fun h2 => ?_⟩
    obtain ⟨b, hb, hg, _⟩ :=
      pyGet_pred l _ hk (List.ne_nil_of_length_pos (Nat.lt_of_succ_lt h2))
    exact ⟨b, hb, hg⟩
  · rw [List.length_insertIdx_of_le_length hk]
    refine ⟨Nat.le_succ_of_le hk, fun h2 => ?_⟩
    obtain ⟨b, hb, _, hg⟩ :=
      pyGet_pred l _ hk (List.ne_nil_of_length_pos (Nat.le_of_succ_le_succ h2))
    exact ⟨b, hb, hg o⟩

/-- The book-keeping of `insert` puts the new item somewhere into `.all`, without exception:
the item it looks up is in the list, hence in `.all`. -/
theorem bookkeep_ok {st : ArgsSt} (h : Inv st) (i : Int) (it : ArgItem) :
    ∃ m, m ≤ st.all.length ∧
      Args.bookkeep (insLst st.lst i it) st.all (pyClampInsert st.lst.length i : Nat) it
        = (st.all.insertIdx m it, .none) := by
  obtain ⟨hk, hpred⟩ := insLst_pred st.lst i it
  unfold Args.bookkeep Args.bookkeepWith
  split
  · exact ⟨_, Nat.le_refl _, by rw [List.insertIdx_length_self]⟩
  · next hl =>
    obtain ⟨b, hbl, hb⟩ := hpred (Nat.lt_of_not_le hl)
    obtain ⟨j, hj, hjlt, _⟩ := indexAll_of_pos b st.all (obj_in_all h hbl)
    simp only [if_neg (Int.not_lt.mpr (Int.ofNat_le.mpr hk)), hb, hj]
    exact ⟨j + 1, hjlt, by rw [pyInsert, ← pyClampInsert_cast _ (j + 1) hjlt]; rfl⟩

theorem insert_char (st : ArgsSt) (i : Int) (a : ArgIn) (h : Inv st) :
    (coerce st.next a = none ∧ Args.insert st i a = (st, .typeError)) ∨
    (∃ it n m, m ≤ st.all.length ∧ coerce st.next a = some (it, n) ∧
      Args.insert st i a = (⟨insLst st.lst i it, st.all.insertIdx m it, n⟩, .none) ∧
      Inv ⟨insLst st.lst i it, st.all.insertIdx m it, n⟩) := by
  unfold Args.insert
  cases hc : coerce st.next a with
  | none => exact Or.inl ⟨rfl, rfl⟩
  | some r =>
    obtain ⟨it, n⟩ := r
    obtain ⟨m, hm, hb⟩ := bookkeep_ok h i it
    refine Or.inr ⟨it, n, m, hm, rfl, ?_, inv_insert h i it hm n⟩
    have hre (o : Obj) : pyInsert st.lst
        (if i < 0 then max ((st.lst.length : Int) + i) 0 else min i st.lst.length) o
        = pyInsert st.lst i o := by
      unfold pyInsert; rw [pyClampInsert_clamped]
    simp only [hre]
    simp only [clamp_cast]
    exact congrArg (fun r : List ArgItem × ArgsOut =>
      ((⟨insLst st.lst i it, r.1, n⟩ : ArgsSt), r.2)) hb

theorem extend_refines (st : ArgsSt) (as : List ArgIn) (h : Inv st) :
    abs (Args.extend st as).1 = (specExtend (abs st) as).1 ∧ Inv (Args.extend st as).1 ∧
    ((Args.extend st as).2 = .none ∧ (specExtend (abs st) as).2 = .none ∨
      (Args.extend st as).2 = .typeError ∧ (specExtend (abs st) as).2 = .typeError) := by
  induction as generalizing st with
  | nil => exact ⟨rfl, h, Or.inl ⟨rfl, rfl⟩⟩
  | cons a r ih =>
    unfold Args.extend specExtend Args.append
    rw [specInsertVal_eq]
    rcases insert_char st st.lst.length a h with ⟨hc, hi⟩ | ⟨it, n, m, _, hc, hi, hinv⟩
    · rw [hi, show coerce (abs st).2 a = none from hc]; exact ⟨rfl, h, Or.inr ⟨rfl, rfl⟩⟩
    · rw [hi, show coerce (abs st).2 a = some (it, n) from hc]; exact ih _ hinv

theorem insLst_append (l : List Obj) (o : Obj) (he : isArgObj o.e = true) :
    insLst l l.length (.grp o) = l ++ [o] := by
  simp only [insLst, listed, he, if_true, pyInsert, pyClampInsert_len, List.insertIdx_length_self]

theorem specExtend_args (s : SpecSt) (es : List Obj) (hes : ∀ o ∈ es, isArgObj o.e = true) :
    specExtend s (es.map .grp) = ((s.1 ++ es, s.2), .none) := by
  induction es generalizing s with
  | nil => simp only [List.map_nil, specExtend, List.append_nil]
  | cons e r ih =>
    have he := hes e List.mem_cons_self
    simp only [List.map_cons, specExtend, specInsertVal_eq, coerce_grp_arg _ he,
      insLst_append _ _ he, ih _ (fun o ho => hes o (List.mem_cons_of_mem _ ho)),
      List.append_assoc, List.singleton_append]

/-- Extending by objects that are arguments never fails, appends them in order and allocates
nothing – in particular `TexArgs(items)` for items taken out of a list, and `extend` by
another `TexArgs`. -/
theorem extend_args (st : ArgsSt) (es : List Obj) (h : Inv st)
    (hes : ∀ o ∈ es, isArgObj o.e = true) :
    ∃ st', Args.extend st (es.map .grp) = (st', .none) ∧ abs st' = (st.lst ++ es, st.next) ∧
      Inv st' := by
  obtain ⟨h1, h2, h3⟩ := extend_refines st (es.map .grp) h
  rw [specExtend_args _ _ hes] at h1 h3
  refine ⟨_, Prod.ext rfl ?_, h1, h2⟩
  rcases h3 with ⟨e, _⟩ | ⟨_, e⟩
  · exact e
  · cases e

theorem extendBy_char (a b : ArgsSt) (ha : Inv a) (hb : Inv b) :
    ∃ a', Args.extendBy a b = (a', .none) ∧ abs a' = (a.lst ++ b.lst, max a.next b.next) ∧
      Inv a' :=
  extend_args (Args.syncNext a b) b.lst (inv_next ha _) hb.args

theorem specSlice_sub (l : List Obj) (lo hi : Option Int) : ∀ o ∈ specSlice l lo hi, o ∈ l :=
  fun _ ho => List.mem_of_mem_drop (List.mem_of_mem_take ho)

/-- `TexArgs(args[lo:hi])`, the copy that a slice returns and `extend` by a slice iterates. -/
theorem construct_slice (st : ArgsSt) (lo hi : Option Int) (h : Inv st) :
    ∃ st', Args.construct ((pySlice st.lst lo hi).map .grp) st.next = (st', .none) ∧
      st'.lst = specSlice st.lst lo hi ∧ Inv st' := by
  rw [pySlice_eq_spec]
  obtain ⟨st', h1, h2, h3⟩ := extend_args (.empty st.next) (specSlice st.lst lo hi)
    (inv_empty _) (fun o ho => h.args o (specSlice_sub _ _ _ o ho))
  exact ⟨st', h1, (congrArg Prod.fst h2).trans (List.nil_append _), h3⟩

theorem extendSlice_eq (st : ArgsSt) (lo hi : Option Int) (h : Inv st) :
    Args.extendSlice st lo hi = Args.extend st ((specSlice st.lst lo hi).map .grp) := by
  obtain ⟨src, h1, h2, _⟩ := construct_slice st lo hi h
  rw [Args.extendSlice, h1, ← h2]

theorem ser_plain (k : GKind) (s : Str) (p q : Int) :
    ser (.group k [.text s p] q) = k.open ++ (s ++ k.close) := by
  simp [ser, serL]

theorem ser_inj_plain {a b : Expr} (ha : Plain a) (hb : Plain b) (h : ser a = ser b) : a = b := by
  rcases ha with ⟨k, s, rfl⟩
  rcases hb with ⟨k', s', rfl⟩
  rw [ser_plain, ser_plain] at h
  cases k <;> cases k' <;> simp [GKind.open, GKind.close] at h
  · rw [h]
  · rw [h]

theorem plain_not_blank {e : Expr} (he : Plain e) : isBlank (ser e) = false := by
  rcases he with ⟨k, s, rfl⟩
  rw [ser_plain]
  have h1 : isSpaceCh 91 = false := by decide
  have h2 : isSpaceCh 123 = false := by decide
  cases k <;> simp [isBlank, GKind.open, h1, h2]

theorem parseGroupWith_plain {ks : List GKind} {s : Str} {e : Expr}
    (h : parseGroupWith ks s = some e) : Plain e := by
  induction ks with
  | nil => cases h
  | cons k ks ih =>
    unfold parseGroupWith at h
    split at h
    · cases h; exact ⟨_, _, rfl⟩
    · exact ih h

theorem coerceStr_plain {n m : Nat} {s : Str} {it : ArgItem} (h : coerceStr n s = some (it, m)) :
    PlainItem it := by
  unfold coerceStr at h
  split at h
  · next hb => cases h; exact hb
  · cases hg : parseGroup s with
    | none => rw [hg] at h; cases h
    | some e => rw [hg] at h; cases h; exact parseGroupWith_plain hg

theorem coerce_plain {n m : Nat} {a : ArgIn} {it : ArgItem} (ha : PlainIn a)
    (h : coerce n a = some (it, m)) : PlainItem it := by
  cases a with
  | str s => exact coerceStr_plain h
  | grp o =>
    obtain ⟨k, s, e⟩ := ha
    obtain ⟨id, _⟩ := o
    subst e
    cases h
    exact ⟨k, s, rfl⟩

theorem mem_insLst {l : List Obj} {i : Int} {it : ArgItem} {x : Obj} (h : x ∈ insLst l i it) :
    x ∈ l ∨ it = .grp x := by
  rcases insLst_cases l i it with e | ⟨o, rfl, _, e⟩ <;> rw [e] at h
  · exact Or.inl h
  · rcases (List.mem_insertIdx (pyClampInsert_le _ _)).mp h with rfl | h
    · exact Or.inr rfl
    · exact Or.inl h

theorem plainSt_sub {st : ArgsSt} (hp : PlainSt st) {l' : List Obj} {a' : List ArgItem}
    (h1 : ∀ x ∈ l', x ∈ st.lst) (h2 : ∀ x ∈ a', x ∈ st.all) (n : Nat) : PlainSt ⟨l', a', n⟩ :=
  ⟨fun e he => hp.lst e (h1 e he), fun it hi => hp.all it (h2 it hi)⟩

theorem plainSt_erase {st : ArgsSt} (hp : PlainSt st) (k j n : Nat) :
    PlainSt ⟨st.lst.eraseIdx k, st.all.eraseIdx j, n⟩ :=
  plainSt_sub hp (fun _ => List.mem_of_mem_eraseIdx) (fun _ => List.mem_of_mem_eraseIdx) n

theorem plain_insert (st : ArgsSt) (i : Int) (a : ArgIn) (h : Inv st) (hp : PlainSt st)
    (ha : PlainIn a) : PlainSt (Args.insert st i a).1 := by
  rcases insert_char st i a h with ⟨_, hi⟩ | ⟨it, n, m, hm, hc, hi, _⟩ <;> rw [hi]
  · exact hp
  · have hit := coerce_plain ha hc
    constructor
    · intro e he
      rcases mem_insLst he with he | rfl
      · exact hp.lst e he
      · exact hit
    · intro x hx
      rcases (List.mem_insertIdx hm).mp hx with rfl | hx
      · exact hit
      · exact hp.all x hx

theorem plain_extend (st : ArgsSt) (as : List ArgIn) (h : Inv st) (hp : PlainSt st)
    (ha : ∀ a ∈ as, PlainIn a) : PlainSt (Args.extend st as).1 := by
  induction as generalizing st with
  | nil => exact hp
  | cons a r ih =>
    unfold Args.extend Args.append
    have hpi := plain_insert st st.lst.length a h hp (ha a List.mem_cons_self)
    rcases insert_char st st.lst.length a h with ⟨_, hi⟩ | ⟨it, n, m, _, _, hi, hinv⟩
    · rw [hi]; exact hp
    · rw [hi] at hpi ⊢
      exact ih _ hinv hpi (fun x hx => ha x (List.mem_cons_of_mem _ hx))

theorem plain_extend_own (st : ArgsSt) (es : List Obj) (h : Inv st)
    (hes : ∀ o ∈ es, o ∈ st.lst) (hp : PlainSt st) : PlainSt (Args.extend st (es.map .grp)).1 := by
  refine plain_extend st _ h hp (fun a ha => ?_)
  obtain ⟨o, ho, rfl⟩ := List.mem_map.mp ha
  exact hp.lst o (hes o ho)

/-- On plain pools a textual twin has the same value (it may be another object). -/
theorem twin_value_of_plain {st : ArgsSt} (hp : PlainSt st) {it : ArgItem} {o : Obj}
    (hit : it ∈ st.all) (ho : o ∈ st.lst) (htxt : it.txt = ser o.e) :
    ∃ o', it = .grp o' ∧ o'.e = o.e := by
  have hpe := hp.lst o ho
  have hpi := hp.all it hit
  cases it with
  | grp x => exact ⟨x, rfl, ser_inj_plain hpi hpe htxt⟩
  | ws s =>
    have : isBlank s = true := hpi
    have h2 := plain_not_blank hpe
    simp only [ArgItem.txt] at htxt
    rw [← htxt, this] at h2
    cases h2

/-- What the properties say about one step from `st`, against the list: the new list, the
invariant and the output are the list's (a returned item is the very list item, a returned
slice a well-formed `TexArgs`); an operation other than `extend` that fails leaves list and
`.all` as they were; the pool of the property is closed. -/
def StepOK (st : ArgsSt) (op : ArgsOp) : Prop :=
  abs (Args.step st op).1 = (specStep (abs st) op).1 ∧ Inv (Args.step st op).1 ∧
  OutRel SameObj (Args.step st op).2 (specStep (abs st) op).2 ∧
  (isExtendOp op = false → isError (Args.step st op).2 = true →
    (Args.step st op).1.lst = st.lst ∧ (Args.step st op).1.all = st.all) ∧
  (PlainSt st → PlainOp op → PlainSt (Args.step st op).1)

theorem insert_ok (st : ArgsSt) (i : Int) (a : ArgIn) (h : Inv st) : StepOK st (.insert i a) := by
  simp only [StepOK, Args.step, specStep, specInsertVal_eq, abs]
  have hp := plain_insert st i a h
  rcases insert_char st i a h with ⟨hc, hi⟩ | ⟨it, n, m, _, hc, hi, hinv⟩
  · rw [hi] at hp ⊢
    rw [hc]
    exact ⟨rfl, h, trivial, fun _ _ => ⟨rfl, rfl⟩, hp⟩
  · rw [hi] at hp ⊢
    rw [hc]
    exact ⟨rfl, hinv, trivial, fun _ => nofun, hp⟩

theorem remove_ok (st : ArgsSt) (a : ArgIn) (h : Inv st) : StepOK st (.remove a) := by
  simp only [StepOK, Args.step, specStep, Args.remove, abs, ← coerce_eq_spec, specRemove_eq]
  cases coerce st.next a with
  | none => exact ⟨rfl, h, trivial, fun _ _ => ⟨rfl, rfl⟩, fun hp _ => hp⟩
  | some r =>
    obtain ⟨it, n⟩ := r
    dsimp only
    cases hk : idxOfTxt (fun o : Obj => ser o.e) it.txt st.lst with
    | none =>
      exact ⟨rfl, inv_next h n, trivial, fun _ _ => ⟨rfl, rfl⟩, fun hp _ => ⟨hp.lst, hp.all⟩⟩
    | some k =>
      obtain ⟨hklt, _⟩ := idxOfTxt_some _ _ _ _ hk
      obtain ⟨j, hj, hinv⟩ := erase_ok h hklt
      simp only [List.getElem?_eq_getElem hklt, hj]
      exact ⟨rfl, hinv n, trivial, fun _ => nofun, fun hp _ => plainSt_erase hp k j n⟩

theorem pop_ok (st : ArgsSt) (i : Int) (h : Inv st) : StepOK st (.pop i) := by
  simp only [StepOK, Args.step, specStep, Args.pop, abs, ← pyIndex_eq_spec]
  cases hk : pyIndex st.lst.length i with
  | none => exact ⟨rfl, h, trivial, fun _ _ => ⟨rfl, rfl⟩, fun hp _ => hp⟩
  | some k =>
    obtain ⟨j, hj, hinv⟩ := erase_ok h (pyIndex_lt hk)
    simp only [List.getElem?_eq_getElem (pyIndex_lt hk), hj]
    exact ⟨congrArg (·, st.next) (List.eraseIdx_eq_take_drop_succ _ k), hinv _, rfl,
      fun _ => nofun, fun hp _ => plainSt_erase hp k j _⟩

theorem getItem_ok (st : ArgsSt) (i : Int) (h : Inv st) : StepOK st (.getItem i) := by
  simp only [StepOK, Args.step, specStep, Args.getItem, pyGet, abs, ← pyIndex_eq_spec]
  cases hk : pyIndex st.lst.length i with
  | none => exact ⟨rfl, h, trivial, fun _ _ => ⟨rfl, rfl⟩, fun hp _ => hp⟩
  | some k =>
    dsimp only
    rw [List.getElem?_eq_getElem (pyIndex_lt hk)]
    exact ⟨rfl, h, rfl, fun _ _ => ⟨rfl, rfl⟩, fun hp _ => hp⟩

theorem step_char (st : ArgsSt) (op : ArgsOp) (h : Inv st) : StepOK st op := by
  cases op with
  | append a => exact insert_ok st st.lst.length a h
  | insert i a => exact insert_ok st i a h
  | extend as =>
    obtain ⟨h1, h2, h3⟩ := extend_refines st as h
    refine ⟨h1, h2, ?_, nofun, plain_extend st as h⟩
    show OutRel SameObj (Args.extend st as).2 (specExtend (abs st) as).2
    rcases h3 with ⟨e1, e2⟩ | ⟨e1, e2⟩
    · rw [e1, e2]; trivial
    · rw [e1, e2]; trivial
  | remove a => exact remove_ok st a h
  | pop i => exact pop_ok st i h
  | reverse =>
    exact ⟨rfl, inv_reverse h _, trivial, fun _ => nofun, fun hp _ =>
      plainSt_sub hp (fun _ => List.mem_reverse.mp) (fun _ => List.mem_reverse.mp) _⟩
  | clear =>
    exact ⟨rfl, inv_empty _, trivial, fun _ => nofun, fun hp _ =>
      plainSt_sub hp (fun _ h => (List.not_mem_nil h).elim)
        (fun _ h => (List.not_mem_nil h).elim) _⟩
  | getItem i => exact getItem_ok st i h
  | slice lo hi =>
    obtain ⟨st', hs, hl, hinv⟩ := construct_slice st lo hi h
    unfold StepOK
    rw [Args.step, Args.slice, hs]
    exact ⟨rfl, h, ⟨hl, hinv⟩, fun _ _ => ⟨rfl, rfl⟩, fun hp _ => hp⟩
  | str => exact ⟨rfl, h, serL_eq_flatten _, fun _ _ => ⟨rfl, rfl⟩, fun hp _ => hp⟩
  | extendSlice lo hi =>
    have hsub := specSlice_sub st.lst lo hi
    obtain ⟨st', h1, h2, h3⟩ := extend_args st _ h (fun o ho => h.args o (hsub o ho))
    have hp := plain_extend_own st _ h hsub
    simp only [StepOK, Args.step, extendSlice_eq st lo hi h]
    rw [h1] at hp ⊢
    exact ⟨h2, h3, trivial, fun _ => nofun, fun p _ => hp p⟩
  | extendSelf =>
    obtain ⟨st', h1, h2, h3⟩ := extend_args st st.lst h h.args
    have hp := plain_extend_own st st.lst h (fun _ ho => ho)
    simp only [StepOK, Args.step, Args.extendSelf]
    rw [h1] at hp ⊢
    exact ⟨h2, h3, trivial, fun _ => nofun, fun p _ => hp p⟩

/-! ## Concrete values used by the non-vacuity examples of `Properties/C18.lean` -/
namespace Examples
def eA : Expr := .group .brace [.text [97] (-1)] (-1)          -- {a}
def eB : Expr := .group .brace [.text [98] (-1)] (-1)          -- {b}
def eY : Expr := .group .brace [.text [121] (-1)] (-1)         -- {y}
def gA : Obj := ⟨.made 0, eA⟩     -- the first group made from a string
def gB : Obj := ⟨.made 1, eB⟩     -- the second
def sA : Str := [123, 97, 125]                                  -- '{a}'
def sB : Str := [123, 98, 125]                                  -- '{b}'
def sY : Str := [123, 121, 125]                                 -- '{y}'
/-- `TexArgs(['{a}', ' ', '{b}'])`. -/
def stAB : ArgsSt := ⟨[gA, gB], [.grp gA, .grp gB, .ws [32]], 2⟩

theorem stAB_reachable : (Args.construct [.str sA, .str [32], .str sB]).1 = stAB := rfl
theorem stAB_inv : Inv stAB :=
  stAB_reachable ▸ (extend_refines (.empty 0) _ (inv_empty 0)).2.1
end Examples

end ArgsLemmas
end TexSoup
