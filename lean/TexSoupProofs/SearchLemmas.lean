import TexSoupProofs.NavPathLemmas
/-!
# Lemmas about search (`find_all`, `__match__`)
-/
namespace TexSoup

/-- The strings other than names that `TexEnv.__match__` compares a query with and that
contain neither `{` nor `[`: the closers `]` `}` of the groups, and `\]`, `\(`, `\)` of the
unnamed math environments. -/
def envDelims : List Str := [[93], [125], [92, 93], [92, 40], [92, 41]]

/-- A query string that `__match__` treats as a plain name: no `{` and no `[` inside (so the
full-expression comparison `str(self) == name` is not taken), and not one of the delimiters
of an unnamed environment (which `TexEnv.__match__` also accepts). -/
def plainName (n : Str) : Bool := !n.contains 123 && !n.contains 91 && !envDelims.contains n

theorem plainName_iff {n : Str} : plainName n = true ↔
    n.contains 123 = false ∧ n.contains 91 = false ∧
      n ≠ [93] ∧ n ≠ [125] ∧ n ≠ [92, 93] ∧ n ≠ [92, 40] ∧ n ≠ [92, 41] := by
  simp only [plainName, envDelims, Bool.and_eq_true, Bool.not_eq_true', List.contains_eq_mem,
    List.mem_cons, List.not_mem_nil, or_false, decide_eq_false_iff_not, not_or]
  constructor
  · rintro ⟨⟨h1, h2⟩, h3⟩
    exact ⟨by simpa using h1, by simpa using h2, h3⟩
  · rintro ⟨h1, h2, h3⟩
    exact ⟨⟨by simpa using h1, by simpa using h2⟩, h3⟩

theorem beq_false_of_contains {n s : Str} {c : Nat} (hn : n.contains c = false)
    (hs : s.contains c = true) : (n == s) = false := by
  cases h : n == s with
  | false => rfl
  | true =>
    rw [eq_of_beq h] at hn
    rw [hn] at hs
    cases hs

theorem matchesQ_plain {n : Str} (hn : plainName n = true) (x : Expr) :
    matchesQ (.name n) x = (x.name == n) := by
  obtain ⟨h1, h2, h3, h4, h5, h6, h7⟩ := plainName_iff.1 hn
  -- whatever `__match__` compares `n` with besides the name contains `{` or `[`, or is in
  -- `envDelims`
  have hb : ∀ s : Str, s.contains 123 = true → (n == s) = false :=
    fun s hs => beq_false_of_contains h1 hs
  have hk : ∀ s : Str, s.contains 91 = true → (n == s) = false :=
    fun s hs => beq_false_of_contains h2 hs
  have hne : ∀ s : Str, n ≠ s → (n == s) = false := fun s h => by simpa using h
  have hcomm : (n == x.name) = (x.name == n) := by
    rw [Bool.eq_iff_iff]; simp only [beq_iff_eq]; exact eq_comm
  simp only [matchesQ, h1, h2, Bool.or_self, Bool.false_eq_true, if_false]
  cases x with
  | text s p => simp [Expr.isEnv]
  | cmd m a b p => simp [Expr.isEnv]
  | nenv m a b p =>
    have e1 : (n == (Expr.nenv m a b p).beginStr ++ serL (Expr.nenv m a b p).args) = false :=
      hb _ (by simp [Expr.beginStr, strBegin])
    have e2 : (n == (Expr.nenv m a b p).beginStr) = false := hb _ (by simp [Expr.beginStr, strBegin])
    have e3 : (n == (Expr.nenv m a b p).endStr) = false := hb _ (by simp [Expr.endStr, strEnd])
    rw [e1, e2, e3, hcomm]
    simp [Expr.isEnv]
  | math k b p =>
    have h8 : n ≠ [92, 91] := fun h => by rw [h] at h2; simp at h2
    rw [Bool.eq_iff_iff]
    cases k <;>
      simp only [Expr.isEnv, Expr.beginStr, Expr.endStr, Expr.name, Expr.args, serL, MKind.open,
        MKind.close, MKind.name, List.append_nil, Bool.true_and, Bool.or_eq_true, beq_iff_eq]
    · constructor
      · rintro ((((h | h) | h) | h) | h) <;> first | exact h.symm | exact h
      · exact fun h => Or.inr h
    · constructor
      · rintro ((((h | h) | h) | h) | h) <;> first | exact h.symm | exact h
      · exact fun h => Or.inr h
    · constructor
      · rintro ((((h | h) | h) | h) | h)
        · exact h.symm
        · exact absurd h h8
        · exact absurd h h8
        · exact absurd h h5
        · exact h
      · exact fun h => Or.inr h
    · constructor
      · rintro ((((h | h) | h) | h) | h)
        · exact h.symm
        · exact absurd h h6
        · exact absurd h h6
        · exact absurd h h7
        · exact h
      · exact fun h => Or.inr h
  | group k b p =>
    have e1 : (n == (Expr.group k b p).beginStr ++ serL (Expr.group k b p).args) = false := by
      cases k
      · exact hk _ (by simp [Expr.beginStr, GKind.open])
      · exact hb _ (by simp [Expr.beginStr, GKind.open])
    have e2 : (n == (Expr.group k b p).beginStr) = false := by
      cases k
      · exact hk _ (by simp [Expr.beginStr, GKind.open])
      · exact hb _ (by simp [Expr.beginStr, GKind.open])
    have e3 : (n == (Expr.group k b p).endStr) = false := by
      cases k
      · exact hne _ (by simpa [Expr.endStr, GKind.close] using h3)
      · exact hne _ (by simpa [Expr.endStr, GKind.close] using h4)
    rw [e1, e2, e3, hcomm]
    simp [Expr.isEnv]

theorem findAll_def (q : Query) (e : Expr) :
    findAll q e = (descOf e).filter (fun x => !x.isText && matchesQ q x) := rfl

theorem findAll_plain {n : Str} (hn : plainName n = true) (e : Expr) :
    findAll (.name n) e = (descOf e).filter (fun x => x.named n) := by
  rw [findAll_def]
  congr 1
  funext x
  rw [matchesQ_plain hn, Expr.named]

theorem findAll_plain_paths {n : Str} (hn : plainName n = true) {e : Expr}
    (he : e.flatArgs = true) :
    findAll (.name n) e = ((descP [] e).filter (fun px => px.2.named n)).map Prod.snd := by
  rw [findAll_plain hn, ← descP_map_snd he [], List.filter_map]
  rfl

theorem findAll_perm_occ {n : Str} (hn : plainName n = true) {e : Expr} (he : e.flatArgs = true) :
    (findAll (.name n) e).Perm ((occ n e).map Prod.snd) := by
  rw [findAll_plain_paths hn he, occ_eq_filter]
  exact ((descP_perm_closureP [] e).filter _).map _

theorem matchesQ_names {l : List Str} (hl : ∀ n ∈ l, plainName n = true) (x : Expr) :
    matchesQ (.names l) x = l.contains x.name := by
  have h1 : l.contains [123] = false := by
    cases h : l.contains [123] with
    | false => rfl
    | true =>
      have := hl [123] (by simpa using h)
      simp [plainName] at this
  have h2 : l.contains [91] = false := by
    cases h : l.contains [91] with
    | false => rfl
    | true =>
      have := hl [91] (by simpa using h)
      simp [plainName] at this
  simp only [matchesQ, h1, h2, Bool.or_self, Bool.false_eq_true, ↓reduceIte]

theorem findAll_names {l : List Str} (hl : ∀ n ∈ l, plainName n = true) (e : Expr) :
    findAll (.names l) e = (descOf e).filter (fun x => !x.isText && l.contains x.name) := by
  rw [findAll_def]
  congr 1
  funext x
  rw [matchesQ_names hl]

/-- `TexNode.__getattr__(attr)`: `self.find(attr) or default` with `default = None` (a
`TexNode` is always truthy: it defines neither `__bool__` nor `__len__`). -/
def getattrOf (n : Str) (e : Expr) : Option Expr :=
  match find (.name n) e with
  | some x => some x
  | none => none

end TexSoup
