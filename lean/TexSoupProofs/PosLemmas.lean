import TexSoupModel.Pos
/-!
# Lemmas about `lineBreaks`, the `bisect` loops and `lineColOf`

The break list of a string is strictly increasing and the breaks before an offset are the breaks
of the prefix; on a strictly increasing list `bisect_left` counts the entries below its argument
(`bisect_right` is `bisect_left` of the successor). Used by
`TexSoupProofs/Properties/C13Lines.lean`.
-/
namespace TexSoup
namespace PosLemmas

theorem lineBreaksFrom_cons (i : Nat) (c : Ch) (r : Str) :
    lineBreaksFrom i (c :: r) =
      if c = 10 then i :: lineBreaksFrom (i + 1) r else lineBreaksFrom (i + 1) r := rfl

theorem lineBreaksFrom_append (i : Nat) (a b : Str) :
    lineBreaksFrom i (a ++ b) = lineBreaksFrom i a ++ lineBreaksFrom (i + a.length) b := by
  induction a generalizing i with
  | nil => rfl
  | cons c r ih =>
    simp only [List.cons_append, lineBreaksFrom_cons, ih, List.length_cons, Nat.add_assoc,
      Nat.add_comm 1]
    split <;> rfl

theorem mem_lineBreaksFrom {i x : Nat} {s : Str} (h : x ∈ lineBreaksFrom i s) :
    i ≤ x ∧ x < i + s.length := by
  induction s generalizing i with
  | nil => cases h
  | cons c r ih =>
    rw [lineBreaksFrom_cons] at h
    rw [List.length_cons]
    split at h
    · rcases List.mem_cons.mp h with rfl | h
      · omega
      · have := ih h; omega
    · have := ih h; omega

theorem lineBreaksFrom_pairwise (i : Nat) (s : Str) :
    (lineBreaksFrom i s).Pairwise (· < ·) := by
  induction s generalizing i with
  | nil => exact List.Pairwise.nil
  | cons c r ih =>
    rw [lineBreaksFrom_cons]
    split
    · exact List.pairwise_cons.mpr ⟨fun x hx => (mem_lineBreaksFrom hx).1, ih _⟩
    · exact ih _

theorem length_lineBreaksFrom (i : Nat) (s : Str) :
    (lineBreaksFrom i s).length = s.count 10 := by
  induction s generalizing i with
  | nil => rfl
  | cons c r ih =>
    rw [lineBreaksFrom_cons, List.count_cons]
    by_cases hc : c = 10 <;> simp [hc, ih]

theorem lineBreaksFrom_no_lf (i : Nat) {t : Str} (h : 10 ∉ t) : lineBreaksFrom i t = [] :=
  List.eq_nil_of_length_eq_zero (by rw [length_lineBreaksFrom, List.count_eq_zero.mpr h])

theorem lineBreaksFrom_last (i : Nat) (pre seg : Str) (hseg : 10 ∉ seg) :
    lineBreaksFrom i (pre ++ 10 :: seg) = lineBreaksFrom i pre ++ [i + pre.length] := by
  rw [lineBreaksFrom_append, lineBreaksFrom_cons, if_pos rfl, lineBreaksFrom_no_lf _ hseg]

theorem lineBreaks_take_append (s : Str) (p : Nat) :
    lineBreaks s = lineBreaks (s.take p) ++ lineBreaksFrom (s.take p).length (s.drop p) := by
  conv => lhs; rw [← List.take_append_drop p s]
  rw [lineBreaks, lineBreaksFrom_append, Nat.zero_add]
  rfl

theorem filter_lt_lineBreaks (s : Str) (p : Nat) :
    (lineBreaks s).filter (· < p) = lineBreaks (s.take p) := by
  have h1 : (lineBreaks (s.take p)).filter (· < p) = lineBreaks (s.take p) := by
    refine List.filter_eq_self.mpr fun x hx => ?_
    have := mem_lineBreaksFrom hx
    rw [List.length_take] at this
    simp only [decide_eq_true_eq]; omega
  have h2 : (lineBreaksFrom (s.take p).length (s.drop p)).filter (· < p) = [] := by
    refine List.filter_eq_nil_iff.mpr fun x hx => ?_
    have := mem_lineBreaksFrom hx
    rw [List.length_take, List.length_drop] at this
    simp only [decide_eq_true_eq]; omega
  rw [lineBreaks_take_append s p, List.filter_append, h1, h2, List.append_nil]

theorem bisectLeftGo_succ (a : List Nat) (x fuel lo hi : Nat) :
    bisectLeftGo a x (fuel + 1) lo hi =
      if lo < hi then
        if a.getD ((lo + hi) / 2) 0 < x then bisectLeftGo a x fuel ((lo + hi) / 2 + 1) hi
        else bisectLeftGo a x fuel lo ((lo + hi) / 2)
      else lo := rfl

theorem bisectRightGo_succ (a : List Nat) (x fuel lo hi : Nat) :
    bisectRightGo a x (fuel + 1) lo hi =
      if lo < hi then
        if x < a.getD ((lo + hi) / 2) 0 then bisectRightGo a x fuel lo ((lo + hi) / 2)
        else bisectRightGo a x fuel ((lo + hi) / 2 + 1) hi
      else lo := rfl

theorem getD_lt_iff {a : List Nat} (hs : a.Pairwise (· < ·)) (x : Nat) {m : Nat}
    (hm : m < a.length) : a.getD m 0 < x ↔ m < (a.filter (· < x)).length := by
  induction a generalizing m with
  | nil => exact absurd hm (Nat.not_lt_zero _)
  | cons h t ih =>
    have ⟨hh, ht⟩ := List.pairwise_cons.mp hs
    by_cases hx : h < x
    · rw [List.filter_cons_of_pos (by simpa using hx), List.length_cons]
      cases m with
      | zero => exact iff_of_true hx (Nat.succ_pos _)
      | succ m => exact (ih ht (Nat.lt_of_succ_lt_succ hm)).trans Nat.succ_lt_succ_iff.symm
    · have hnil : t.filter (· < x) = [] :=
        List.filter_eq_nil_iff.mpr fun y hy => by
          have := hh y hy
          simp only [decide_eq_true_eq]; omega
      rw [List.filter_cons_of_neg (by simpa using hx), hnil]
      refine iff_of_false ?_ (Nat.not_lt_zero _)
      cases m with
      | zero => exact hx
      | succ m =>
        have hm' : m < t.length := Nat.lt_of_succ_lt_succ hm
        have := hh t[m] (List.getElem_mem hm')
        rw [List.getD_cons_succ, List.getD_eq_getElem?_getD, List.getElem?_eq_getElem hm']
        exact fun h' => hx (Nat.lt_trans this h')

/-- The loop keeps the number of entries below `x` between `lo` and `hi`. -/
theorem bisectLeftGo_eq (a : List Nat) (x : Nat) (hs : a.Pairwise (· < ·)) (fuel lo hi : Nat)
    (hhi : hi ≤ a.length) (hf : hi < lo + fuel) (h1 : lo ≤ (a.filter (· < x)).length)
    (h2 : (a.filter (· < x)).length ≤ hi) :
    bisectLeftGo a x fuel lo hi = (a.filter (· < x)).length := by
  induction fuel generalizing lo hi with
  | zero => omega
  | succ f ih =>
    rw [bisectLeftGo_succ]
    split
    · have hm : lo ≤ (lo + hi) / 2 ∧ (lo + hi) / 2 < hi := by omega
      generalize (lo + hi) / 2 = mid at hm ⊢
      have hiff := getD_lt_iff hs x (Nat.lt_of_lt_of_le hm.2 hhi)
      split
      · next h => exact ih _ _ hhi (by omega) (hiff.mp h) h2
      · next h => exact ih _ _ (by omega) (by omega) h1 (Nat.le_of_not_lt (mt hiff.mpr h))
    · omega

theorem bisectLeft_eq (a : List Nat) (x : Nat) (hs : a.Pairwise (· < ·)) :
    bisectLeft a x = (a.filter (· < x)).length :=
  bisectLeftGo_eq a x hs _ _ _ (Nat.le_refl _) (by omega) (Nat.zero_le _)
    (List.length_filter_le _ _)

theorem bisectRightGo_eq_left (a : List Nat) (x fuel lo hi : Nat) :
    bisectRightGo a x fuel lo hi = bisectLeftGo a (x + 1) fuel lo hi := by
  induction fuel generalizing lo hi with
  | zero => rfl
  | succ f ih =>
    simp only [bisectRightGo_succ, bisectLeftGo_succ, ih, Nat.lt_succ_iff, ← Nat.not_lt, ite_not]

theorem bisectRight_eq_left (a : List Nat) (x : Nat) : bisectRight a x = bisectLeft a (x + 1) :=
  bisectRightGo_eq_left a x _ _ _

theorem bisectRight_eq (a : List Nat) (x : Nat) (hs : a.Pairwise (· < ·)) :
    bisectRight a x = (a.filter (· ≤ x)).length := by
  simp only [bisectRight_eq_left, bisectLeft_eq a _ hs, Nat.lt_succ_iff]

/-- `line_no` of the repaired code: the number of line breaks strictly before `p`. -/
theorem bisectLeft_lineBreaks (s : Str) (p : Nat) :
    bisectLeft (lineBreaks s) p = (s.take p).count 10 := by
  rw [bisectLeft_eq _ _ (show (lineBreaks s).Pairwise (· < ·) from lineBreaksFrom_pairwise 0 s),
    filter_lt_lineBreaks]
  exact length_lineBreaksFrom 0 _

/-- `line_no` of the code before the repair: the line breaks up to and including `p`. -/
theorem bisectRight_lineBreaks (s : Str) (p : Nat) :
    bisectRight (lineBreaks s) p = (s.take (p + 1)).count 10 :=
  (bisectRight_eq_left _ p).trans (bisectLeft_lineBreaks s (p + 1))

theorem split_last_lf (t : Str) :
    10 ∉ t ∨ ∃ pre seg, t = pre ++ 10 :: seg ∧ 10 ∉ seg := by
  induction t with
  | nil => exact Or.inl List.not_mem_nil
  | cons c r ih =>
    rcases ih with h | ⟨pre, seg, h, hs⟩
    · by_cases hc : c = 10
      · exact Or.inr ⟨[], r, by rw [hc]; rfl, h⟩
      · exact Or.inl fun hm => (List.mem_cons.mp hm).elim (fun e => hc e.symm) h
    · exact Or.inr ⟨c :: pre, seg, by rw [h]; rfl, hs⟩

/-- If the prefix of length `p` ends in `.. LF seg` with `seg` LF-free, the entry of the
break list just below the bisection point is the position of that LF. -/
theorem lineBreaks_getD_pred {s : Str} {p : Nat} {pre seg : Str}
    (ht : s.take p = pre ++ 10 :: seg) (hseg : 10 ∉ seg) :
    (lineBreaks s).getD ((s.take p).count 10 - 1) 0 = pre.length := by
  have h1 : lineBreaks (s.take p) = lineBreaks pre ++ [pre.length] := by
    rw [ht, lineBreaks, lineBreaksFrom_last 0 pre seg hseg, Nat.zero_add]; rfl
  have hlen : (s.take p).count 10 - 1 = (lineBreaks pre).length := by
    rw [← length_lineBreaksFrom 0, ← lineBreaks, h1, List.length_append]; rfl
  rw [lineBreaks_take_append s p, h1, hlen]
  simp [List.getD_eq_getElem?_getD]

theorem lineColOf_fst (lbs : List Nat) (len p n : Nat) : (lineColOf lbs len p n).1 = n := by
  unfold lineColOf
  split
  · rfl
  · split <;> rfl

/-- The column when the line after the break below the bisection point `n ≥ 1` starts at `l`.
Only on the last line may `p` lie beyond the end (`h`); there the `min` of the code clamps the
column. -/
theorem lineColOf_after_break {lbs : List Nat} {len p n l : Nat} (hn : n ≠ 0)
    (hl : lbs.getD (n - 1) 0 + 1 = l) (h : n = lbs.length ∨ p ≤ len) :
    lineColOf lbs len p n = (n, min ((p : Int) - l) ((len : Int) + 1 - l)) := by
  unfold lineColOf
  rw [if_neg hn, ← hl, Int.natCast_add, Int.natCast_one, ← Int.sub_sub, Int.add_sub_add_right]
  split
  · next hn' => rw [← hn']
  · next hn' =>
    have hp : (p : Int) ≤ len := Int.ofNat_le.mpr (h.resolve_left hn')
    exact congrArg (Prod.mk n) (Int.min_eq_left (Int.le_trans (Int.sub_le_self _ (by decide))
      (Int.sub_le_sub_right hp _))).symm

end PosLemmas
end TexSoup
