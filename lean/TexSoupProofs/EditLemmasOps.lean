import TexSoupProofs.EditLemmasPaths
/-!
# Edit lemmas: every structural edit is one list splice at a *site*
-/
namespace TexSoup.Edit

/-- Where a structural edit happens: in the node at `q`, `d` elements at place `st` of the
holder are replaced by `ns`. -/
structure Site where
  q : Path
  st : Step
  d : Nat
  ns : List Expr

/-- The holder and the size of the span that `node.string = s` replaces. -/
def setStringSite : Expr → Option (Step × Nat)
  | .cmd _ [a] _ _ => if a.hasBody then some (.arg 0 0, a.body.length) else none
  | .cmd _ _ _ _ => none
  | .text _ _ => none
  | e => match contentsOf e with
    | [.text _ _] => some (.body 0, e.body.length)
    | _ => none

/-- The site of an edit, if the edit is one that succeeds as a list splice. -/
def siteOf (es : List Expr) : EditOp → Option Site
  | .delete p => match splitLast p with
    | some (q, st) => if parentOK es p && (getAtRoot es p).isSome then some ⟨q, st, 1, []⟩ else none
    | none => none
  | .replace p ns => match splitLast p with
    | some (q, st) => if parentOK es p && (getAtRoot es p).isSome then some ⟨q, st, 1, ns⟩ else none
    | none => none
  | .insert c i ns => match getAtRoot es c with
    | some e => if e.supportsContents then some ⟨c, .body (min i e.body.length), 0, ns⟩ else none
    | none => none
  | .append c ns => match getAtRoot es c with
    | some e => if e.supportsContents then some ⟨c, .body e.body.length, 0, ns⟩ else none
    | none => none
  | .setString p s => if p.isEmpty then none else match getAtRoot es p with
    | some e => match setStringSite e with
      | some (st, d) => some ⟨p, st, d, [.text s (-1)]⟩
      | none => none
    | none => none
  | _ => none

theorem getAtRoot_snoc {es : List Expr} {q : Path} {st : Step} {e : Expr}
    (hq : getAtRoot es q = some e) : getAtRoot es (q ++ [st]) = stepGet e st := by
  unfold getAtRoot at hq ⊢
  rw [getAt_append, hq]; exact getAt_singleton e st

/-- `node.string = s` overwrites the whole holder that `setStringSite` names: the node's own
contents, or the contents of the single argument of a command. Where there is none, the
assignment raises or (the single argument of a command being a bare token) changes nothing. -/
theorem setStringE_site (s : Str) (e : Expr) :
    match setStringSite e with
    | some (st, d) => setStringE s e = holderSpliceF st d [.text s (-1)] e ∧
        (∃ l, holderList e st = some l ∧ st.idx = 0 ∧ d = l.length) ∧
        (st = .body 0 ∨ st = .arg 0 0 ∧ ∃ n a b pos, e = .cmd n [a] b pos)
    | none => setStringE s e = none ∨ setStringE s e = some e := by
  have all : ∀ l : List Expr, spliceList 0 l.length [.text s (-1)] l = [.text s (-1)] := by
    simp [spliceList]
  cases e with
  | text t p => exact Or.inl rfl
  | cmd n a b p =>
    match a with
    | [] => exact Or.inl rfl
    | _ :: _ :: _ => exact Or.inl rfl
    | [a] =>
      simp only [setStringSite]
      cases hb : a.hasBody with
      | true =>
        refine ⟨?_, ⟨a.body, by simp [holderList, Expr.args, hb], rfl, rfl⟩,
          Or.inr ⟨rfl, n, a, b, p, rfl⟩⟩
        simp [setStringE, holderSpliceF, editHolder, Expr.args, Expr.setArgs, all]
      | false =>
        cases a with
        | text _ _ => exact Or.inr rfl
        | _ => cases hb
  | nenv _ _ b _ | math _ b _ | group _ b _ =>
    simp only [setStringSite, setStringE]
    generalize contentsOf _ = c
    rcases c with _ | ⟨x, _ | ⟨y, r⟩⟩
    · exact Or.inl rfl
    · cases x with
      | text _ _ =>
        exact ⟨by simp [holderSpliceF, editHolder, Expr.body, all], ⟨b, rfl, rfl, rfl⟩, Or.inl rfl⟩
      | _ => exact Or.inl rfl
    · cases x <;> exact Or.inl rfl

theorem siteOf_spec {es : List Expr} {op : EditOp} {σ : Site} (h : siteOf es op = some σ) :
    ∃ e l, getAtRoot es σ.q = some e ∧ holderList e σ.st = some l ∧ σ.st.idx + σ.d ≤ l.length ∧
      applyEditE (rootWrap es) op = updAt (rootWrap es) σ.q (holderSpliceF σ.st σ.d σ.ns) := by
  cases op with
  | delete p | replace p ns =>
    simp only [siteOf] at h
    split at h
    · rename_i q st hsl
      split at h
      · rename_i hc
        cases h
        simp only [Bool.and_eq_true, parentOK, hsl] at hc
        obtain ⟨hpo, hsome⟩ := hc
        split at hpo
        · rename_i e he
          obtain rfl := splitLast_eq hsl
          rw [getAtRoot_snoc he] at hsome
          obtain ⟨x, hx⟩ := Option.isSome_iff_exists.mp hsome
          obtain ⟨l, hl, hlx⟩ := stepGet_holder hx
          refine ⟨e, l, he, hl, (List.getElem?_eq_some_iff.mp hlx).1, ?_⟩
          simp only [applyEditE, hsl, deleteAt_eq_replaceAt]
          exact updAt_congr he (editHolderG_replace _ hpo)
        · cases hpo
      · cases h
    · cases h
  | insert c i ns | append c ns =>
    simp only [siteOf] at h
    split at h
    · rename_i e he
      split at h
      · rename_i hsc
        cases h
        refine ⟨e, e.body, he, by simp [holderList, hasBody_of_supportsContents hsc],
          by simp [Step.idx, Nat.min_le_right], ?_⟩
        simp only [applyEditE]
        exact updAt_congr he (by first | exact insertF_eq i ns hsc | exact appendF_eq ns hsc)
      · cases h
    · cases h
  | setString p s =>
    simp only [siteOf] at h
    split at h
    · cases h
    · rename_i hp
      split at h
      · rename_i e he
        split at h
        · rename_i st d hs
          cases h
          have := setStringE_site s e
          rw [hs] at this
          obtain ⟨heq, ⟨l, hl, hi, hd⟩, _⟩ := this
          refine ⟨e, l, he, hl, by simp [hi, hd], ?_⟩
          simp only [applyEditE, hp, Bool.false_eq_true, if_false]
          exact updAt_congr he heq
        · cases h
      · cases h
  | rename p n => cases h
  | setArgs p as => cases h

theorem site_splice {es : List Expr} {op : EditOp} {σ : Site} (h : siteOf es op = some σ) :
    ∃ e l k es', getAtRoot es σ.q = some e ∧ holderList e σ.st = some l ∧
      σ.st.idx + σ.d ≤ l.length ∧ siteOffRoot es σ.q σ.st = some k ∧
      updAt (rootWrap es) σ.q (holderSpliceF σ.st σ.d σ.ns) = some (rootWrap es') ∧
      applyEdit es op = es' ∧
      serL es' = (serL es).take k ++
        (serL σ.ns ++ (serL es).drop (k + (serL ((l.drop σ.st.idx).take σ.d)).length)) := by
  obtain ⟨e, l, he, hl, hd, hop⟩ := siteOf_spec h
  obtain ⟨A, B, hser, hoff, es', hupd, hser'⟩ := root_holderSplice σ.d σ.ns he hl hd
  refine ⟨e, l, A.length, es', he, hl, hd, hoff, hupd, ?_, frame_splice hser hser' rfl⟩
  simp [applyEdit, hop, hupd, rootWrap_body]

theorem editHolder_none_of_stepGet {e : Expr} {st : Step}
    {g : Nat → List Expr → Option (List Expr)}
    (hg : ∀ j l, l[j]? = none → g j l = none) (h : stepGet e st = none) :
    editHolder e st g = none := by
  cases st with
  | body j => simp [editHolder, hg j e.body h]
  | arg i j =>
    simp only [stepGet] at h
    simp only [editHolder]
    split at h
    · rename_i a ha
      simp [ha, hg j a.body h]
    · rename_i ha
      simp [ha]

theorem replaceAt_none (ns : List Expr) {j : Nat} {l : List Expr} (h : l[j]? = none) :
    replaceAt ns j l = none :=
  if_neg (fun hj => by rw [List.getElem?_eq_getElem hj] at h; cases h)

theorem set_of_getElem? {l : List Expr} {i : Nat} {a : Expr} (h : l[i]? = some a) :
    l.set i a = l := by
  obtain ⟨hi, rfl⟩ := List.getElem?_eq_some_iff.mp h
  exact List.set_getElem_self hi

theorem setHolder_self {e : Expr} {st : Step} {l : List Expr} (hl : holderList e st = some l) :
    setHolder e st l = e := by
  rcases holderList_inv hl with ⟨j, rfl, _, rfl⟩ | ⟨i, j, a, rfl, ha, _, rfl⟩
  · exact setBody_body e
  · simp only [setHolder, ha, setBody_body]
    rw [set_of_getElem? ha, setArgs_args]

theorem updAt_id (q : Path) : ∀ {e y : Expr}, getAt e q = some y →
    updAt e q (fun x => some x) = some e := by
  induction q with
  | nil => intro e y _; rfl
  | cons t q ih =>
    intro e y h
    obtain ⟨x, hx, hq⟩ := getAt_cons_some.1 h
    obtain ⟨l, hl, hlx⟩ := stepGet_holder hx
    refine updAt_cons_some.2 ⟨l, x, x, hl, hlx, ih hq, ?_⟩
    rw [set_of_getElem? hlx, setHolder_self hl]

theorem siteOf_none {es : List Expr} {op : EditOp} (h : siteOf es op = none)
    (hop : ∀ p n, op ≠ .rename p n) (hop' : ∀ p a, op ≠ .setArgs p a) :
    applyEdit es op = es := by
  have key : applyEditE (rootWrap es) op = none ∨ applyEdit es op = es := by
    cases op with
    | rename p n => exact absurd rfl (hop p n)
    | setArgs p a => exact absurd rfl (hop' p a)
    | delete p | replace p ns =>
      left
      simp only [siteOf] at h
      simp only [applyEditE, deleteAt_eq_replaceAt]
      split at h
      · rename_i q st hsl
        simp only [hsl]
        obtain rfl := splitLast_eq hsl
        apply updAt_eq_none
        intro e he
        change getAtRoot es q = some e at he
        simp only [parentOK, hsl, he, getAtRoot_snoc he] at h
        by_cases hok : holderOK e st = true
        · simp only [hok, Bool.true_and, ite_eq_right_iff] at h
          cases hx : stepGet e st with
          | none =>
            simp only [editHolderG, hok, if_true]
            exact editHolder_none_of_stepGet (fun _ _ => replaceAt_none _) hx
          | some x => simp [hx] at h
        · simp [editHolderG, hok]
      · rename_i hsl; simp [hsl]
    | insert c i ns | append c ns =>
      left
      simp only [siteOf] at h
      simp only [applyEditE]
      apply updAt_eq_none
      intro e he
      change getAtRoot es c = some e at he
      simp only [he] at h
      by_cases hsc : e.supportsContents = true
      · simp [hsc] at h
      · simp [hsc]
    | setString p s =>
      simp only [siteOf] at h
      simp only [applyEdit, applyEditE]
      split at h
      · rename_i hp; left; simp [hp]
      · rename_i hp
        simp only [hp, Bool.false_eq_true, if_false]
        cases he : getAtRoot es p with
        | none => left; exact updAt_none _ he
        | some e =>
          simp only [he] at h
          have hs := setStringE_site s e
          split at h
          · cases h
          · rename_i hnone
            rw [hnone] at hs
            rcases hs with hs | hs
            · left; exact updAt_fail he hs
            · right
              -- the degenerate case: the edit rewrites the node by itself
              rw [updAt_congr (g := fun x => some x) he hs, updAt_id _ he]
              rfl
  rcases key with key | key
  · simp [applyEdit, key]
  · exact key

end TexSoup.Edit
