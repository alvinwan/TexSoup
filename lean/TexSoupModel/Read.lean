import TexSoupModel.Tok
import TexSoupModel.Tree
/-!
# Model of `TexSoup/reader.py` and `TexSoup/tex.py` (after the repairs)

Readers work on the list of remaining tokens and return the parsed value together with the
tokens left. Look-ahead by parsing (`make_read_peek`) is "run the reader, drop the remainder".
Recursion is on a fuel that bounds the *depth* of the call chain (loop iterations count as
depth); `parseFuel` always suffices (theorem `parse_no_fuel`).
Python exceptions are values of `Err`.
-/
namespace TexSoup

inductive Err where
  | eof        -- EOFError: unclosed environment / math region
  | type       -- TypeError: malformed argument
  | assertion  -- AssertionError: \begin without name, \item in math mode
  | internal   -- anything else (StopIteration/RuntimeError, KeyError, ...): must never happen
  | fuel       -- the model ran out of fuel: must never happen with `parseFuel`
  deriving DecidableEq, Repr, Inhabited

inductive Mode where
  | nonMath | math | special
  deriving DecidableEq, Repr, Inhabited

abbrev Res (α : Type) := Except Err (α × List Tok)

def sItem  : Str := [105, 116, 101, 109]
def sBegin : Str := [98, 101, 103, 105, 110]
def sEnd   : Str := [101, 110, 100]

/-- `SIGNATURES.get(name, (-1, -1))`. -/
def signatureOf (name : Str) : List (Str × (Int × Int)) → Int × Int
  | [] => (-1, -1)
  | (n, sg) :: r => if name == n then sg else signatureOf name r

/-- `read_spacer`: the next token if it is a `MergedSpacer`. -/
def readSpacer : List Tok → Bool × List Tok
  | t :: r => if t.cat == .MergedSpacer then (true, r) else (false, t :: r)
  | [] => (false, [])

/-- `'\\end{%s}' % name`. -/
def endMarker (name : Str) : Str := strEnd ++ (name ++ [125])

/-- `Buffer.startswith(s)` on a token buffer: the texts of the next `len(s)` *tokens*,
joined, start with `s`. -/
def bufStartsWith (s : Str) (ts : List Tok) : Bool := isPrefix s (flat (ts.take s.length))

/-- `forward_until(condition, peek=False)` of `read_skip_env`: split at the first token
boundary at which the remaining tokens spell the end marker. -/
def skipBody (marker : Str) : List Tok → List Tok × List Tok
  | [] => ([], [])
  | t :: r =>
    if bufStartsWith marker (t :: r) then ([], t :: r)
    else let (b, rest) := skipBody marker r; (t :: b, rest)

/-- `read_skip_env`. -/
def readSkipEnv (name : Str) (args : List Expr) (pos : Int) (ts : List Tok) : Res Expr :=
  let (body, rest) := skipBody (endMarker name) ts
  let bpos : Int := match ts with
    | t :: _ => t.pos
    | [] => -1
  if bufStartsWith (endMarker name) rest then
    .ok (.nenv name args [.text (flat body) bpos] pos, rest.drop 5)
  else .error .eof

/-- Signature used by `read_command`: the given counts, or the table entry when both are
negative. -/
def cmdSig (nreq nopt : Int) (name : Str) : Int × Int :=
  if nreq < 0 && nopt < 0 then signatureOf name Tables.signatures else (nreq, nopt)

/-- Mode in which `read_command` reads the arguments. -/
def cmdMode (name : Str) (mode : Mode) : Mode :=
  if memStr name Tables.specialCommands then .special else mode

/-- Is the next token of the given category? -/
def nextIs (c : TC) : List Tok → Bool
  | t :: _ => t.cat == c
  | [] => false

/-- Sequencing of readers: propagate the error, otherwise continue with value and rest. -/
@[inline] def Res.bind {α β : Type} (x : Res α) (k : α → List Tok → Res β) : Res β :=
  match x with
  | .error e => .error e
  | .ok (a, ts) => k a ts

/-- The consumption of a peeked `\end`: what `read_env` decides after its loop. -/
def envError (name : Str) : Option (List Expr) → Bool
  | none => true
  | some [] => true
  | some (a0 :: _) => a0.string != name

mutual

/-- `read_expr`. -/
def readExpr : Nat → List Str → Bool → Mode → List Tok → Res Expr
  | 0, _, _, _, _ => .error .fuel
  | f + 1, skip, tol, mode, ts =>
    match ts with
    | [] => .error .internal
    | c :: ts =>
      match mkindOfBegin c.cat with
      | some k => readMathEnv f k c.pos tol ts
      | none =>
        if c.cat == .Escape then
          (readCommand f (-1) (-1) tol mode ts).bind fun na ts1 =>
            if na.1.text == sItem then
              if mode == .math then .error .assertion
              else (readItem f ts1).bind fun body ts2 =>
                .ok (.cmd (strip na.1.text) na.2 body c.pos, ts2)
            else if na.1.text == sBegin && mode != .special then
              match na.2 with
              | [] => .error .assertion
              | a0 :: as =>
                if memStr (strip a0.string) skip then readSkipEnv (strip a0.string) as c.pos ts1
                else readEnv f (strip a0.string) as c.pos skip tol
                  (if memStr (strip a0.string) Tables.mathEnvNames then Mode.math else mode) ts1
            else .ok (.cmd (strip na.1.text) na.2 [] c.pos, ts1)
        else if c.cat == .GroupBegin then readArg f .brace c.pos tol .nonMath ts
        else .ok (.text c.text c.pos, ts)

/-- `read_item`: contents of an `\item` (always strict, non-math, no skipped environments). -/
def readItem : Nat → List Tok → Res (List Expr)
  | 0, _ => .error .fuel
  | f + 1, ts =>
    match ts with
    | [] => .ok ([], [])
    | t :: r =>
      if t.cat == .Escape then
        -- peek: `read_command(src, 0, 0, skip=1)`: only the name is read
        (readCommand f 0 0 false .nonMath r).bind fun na _ =>
          if na.1.text == sEnd || na.1.text == sItem then .ok ([], t :: r)
          else (readExpr f [] false .nonMath (t :: r)).bind fun e ts1 =>
            (readItem f ts1).bind fun es ts2 => .ok (e :: es, ts2)
      else if t.cat == .GroupEnd then .ok ([], t :: r)
      else (readExpr f [] false .nonMath (t :: r)).bind fun e ts1 =>
        (readItem f ts1).bind fun es ts2 => .ok (e :: es, ts2)

/-- `read_math_env`. -/
def readMathEnv : Nat → MKind → Int → Bool → List Tok → Res Expr
  | 0, _, _, _, _ => .error .fuel
  | f + 1, k, pos, tol, ts =>
    (readMathBody f k tol ts).bind fun body ts1 =>
      match ts1 with
      | [] => .error .eof
      | t :: r => if t.cat == k.tokEnd then .ok (.math k body pos, r) else .error .eof

/-- the `while` loop of `read_math_env`. -/
def readMathBody : Nat → MKind → Bool → List Tok → Res (List Expr)
  | 0, _, _, _ => .error .fuel
  | f + 1, k, tol, ts =>
    match ts with
    | [] => .ok ([], [])
    | t :: r =>
      if t.cat == k.tokEnd then .ok ([], t :: r)
      else (readExpr f [] tol .math (t :: r)).bind fun e ts1 =>
        (readMathBody f k tol ts1).bind fun es ts2 => .ok (e :: es, ts2)

/-- `read_env`. -/
def readEnv : Nat → Str → List Expr → Int → List Str → Bool → Mode → List Tok → Res Expr
  | 0, _, _, _, _, _, _, _ => .error .fuel
  | f + 1, name, args, pos, skip, tol, mode, ts =>
    (readEnvBody f skip tol mode ts).bind fun be ts1 =>
      if envError name be.2 then
        if tol then .ok (.nenv name args be.1 pos, ts1) else .error .eof
      else
        -- consume `\end` and its one argument: `read_command(src, 1, 0, skip=1)`
        match ts1 with
        | [] => .error .internal
        | _ :: r => (readCommand f 1 0 tol mode r).bind fun _ ts2 =>
            .ok (.nenv name args be.1 pos, ts2)

/-- the `while` loop of `read_env`: contents, and the arguments of the peeked `\end` if the
loop stopped at one. -/
def readEnvBody : Nat → List Str → Bool → Mode → List Tok →
    Res (List Expr × Option (List Expr))
  | 0, _, _, _, _ => .error .fuel
  | f + 1, skip, tol, mode, ts =>
    match ts with
    | [] => .ok (([], none), [])
    | t :: r =>
      if t.cat == .Escape then
        -- peek: `read_command(src, 1, 0, skip=1)`: `\end` takes exactly one argument
        (readCommand f 1 0 tol mode r).bind fun na _ =>
          if na.1.text == sEnd then .ok (([], some na.2), t :: r)
          else (readExpr f skip tol mode (t :: r)).bind fun e ts1 =>
            (readEnvBody f skip tol mode ts1).bind fun be ts2 => .ok ((e :: be.1, be.2), ts2)
      else (readExpr f skip tol mode (t :: r)).bind fun e ts1 =>
        (readEnvBody f skip tol mode ts1).bind fun be ts2 => .ok ((e :: be.1, be.2), ts2)

/-- `read_command` after `skip` tokens have been skipped: name token and arguments. -/
def readCommand : Nat → Int → Int → Bool → Mode → List Tok → Res (Tok × List Expr)
  | 0, _, _, _, _, _ => .error .fuel
  | f + 1, nreq, nopt, tol, mode, ts =>
    match ts with
    | [] => (readArgs f (cmdSig nreq nopt []).1 (cmdSig nreq nopt []).2 tol (cmdMode [] mode) []).bind
        fun args ts2 => .ok ((⟨[], 0, .Text⟩, args), ts2)
    | n :: r => (readArgs f (cmdSig nreq nopt n.text).1 (cmdSig nreq nopt n.text).2 tol
        (cmdMode n.text mode) r).bind fun args ts2 => .ok ((n, args), ts2)

/-- `read_args`: optional*, required*, then optional* if a bracket follows, then required*
if a brace follows. -/
def readArgs : Nat → Int → Int → Bool → Mode → List Tok → Res (List Expr)
  | 0, _, _, _, _, _ => .error .fuel
  | f + 1, nreq, nopt, tol, mode, ts =>
    if nreq == 0 && nopt == 0 then .ok ([], ts)
    else
      (readArgOpt f nopt tol mode ts).bind fun an1 ts1 =>
      (readArgReq f nreq tol mode ts1).bind fun an2 ts2 =>
      (if nextIs .BracketBegin ts2 then readArgOpt f an1.2 tol mode ts2 else .ok (([], an1.2), ts2)).bind
        fun an3 ts3 =>
      (if nextIs .GroupBegin ts3 then readArgReq f an2.2 tol mode ts3 else .ok (([], an2.2), ts3)).bind
        fun an4 ts4 => .ok (an1.1 ++ (an2.1 ++ (an3.1 ++ an4.1)), ts4)

/-- `read_arg_optional`: arguments read and the remaining count. -/
def readArgOpt : Nat → Int → Bool → Mode → List Tok → Res (List Expr × Int)
  | 0, _, _, _, _ => .error .fuel
  | f + 1, n, tol, mode, ts =>
    if n == 0 then .ok (([], n), ts)
    else
      match (readSpacer ts).2 with
      | o :: r =>
        if o.cat == .BracketBegin then
          (readArg f .bracket o.pos tol mode r).bind fun g ts1 =>
            (readArgOpt f (n - 1) tol mode ts1).bind fun gn ts2 => .ok ((g :: gn.1, gn.2), ts2)
        else .ok (([], n), ts)      -- spacer (if any) rolled back
      | [] => .ok (([], n), ts)

/-- `read_arg_required`. -/
def readArgReq : Nat → Int → Bool → Mode → List Tok → Res (List Expr × Int)
  | 0, _, _, _, _ => .error .fuel
  | f + 1, n, tol, mode, ts =>
    if n == 0 then .ok (([], n), ts)
    else
      match (readSpacer ts).2 with
      | o :: r =>
        if o.cat == .GroupBegin then
          (readArg f .brace o.pos tol mode r).bind fun g ts1 =>
            (readArgReq f (n - 1) tol mode ts1).bind fun gn ts2 => .ok ((g :: gn.1, gn.2), ts2)
        else if n > 0 then
          if o.cat == .Escape then
            -- a bare command as mandatory argument: `read_command(src, 0, 0)`
            (readCommand f 0 0 tol mode r).bind fun na ts1 =>
              (readArgReq f (n - 1) tol mode ts1).bind fun gn ts2 =>
                .ok ((.cmd (strip na.1.text) [] [] o.pos :: gn.1, gn.2), ts2)
          else
            -- a bare token as mandatory argument: `'{%s}' % token`
            (readArgReq f (n - 1) tol mode r).bind fun gn ts2 =>
              .ok ((.group .brace [.text o.text (-1)] (-1) :: gn.1, gn.2), ts2)
        else .ok (([], n), ts)
      | [] => .ok (([], n), ts)

/-- `read_arg` after its opening token: contents up to the matching closer. -/
def readArg : Nat → GKind → Int → Bool → Mode → List Tok → Res Expr
  | 0, _, _, _, _, _ => .error .fuel
  | f + 1, k, pos, tol, mode, ts =>
    (readArgBody f k tol mode ts).bind fun body ts1 => .ok (.group k body pos, ts1)

/-- the `while` loop of `read_arg`; consumes the closer. -/
def readArgBody : Nat → GKind → Bool → Mode → List Tok → Res (List Expr)
  | 0, _, _, _, _ => .error .fuel
  | f + 1, k, tol, mode, ts =>
    match ts with
    | [] => if tol then .ok ([], []) else .error .type
    | t :: r =>
      if t.cat == k.tokEnd then .ok ([], r)
      else (readExpr f [] tol mode (t :: r)).bind fun e ts1 =>
        (readArgBody f k tol mode ts1).bind fun es ts2 => .ok (e :: es, ts2)

end

/-- `read_tex`: expressions until the buffer is exhausted. -/
def readTex : Nat → List Str → Bool → List Tok → Except Err (List Expr)
  | 0, _, _, _ => .error .fuel
  | f + 1, skip, tol, ts =>
    match ts with
    | [] => .ok []
    | _ :: _ =>
      match readExpr f skip tol .nonMath ts with
      | .error e => .error e
      | .ok (e, ts1) =>
        match readTex f skip tol ts1 with
        | .error e => .error e
        | .ok es => .ok (e :: es)

/-- Fuel that always suffices for a token list. -/
def parseFuel (ts : List Tok) : Nat := 4 * ts.length + 8

/-- `TexSoup(s, skip_envs, tolerance)` up to the root's contents. -/
def parse (tol : Bool) (skip : List Str) (s : Str) : Except Err (List Expr) :=
  match tokenize s with
  | none => .error .fuel
  | some ts => readTex (parseFuel ts) (Tables.skipEnvNames ++ skip) tol ts

end TexSoup
