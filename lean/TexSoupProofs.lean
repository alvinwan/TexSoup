-- Every module under TexSoupProofs/, each after the modules it imports.
import TexSoupProofs.TokLemmas.Basic
import TexSoupProofs.TokLemmas.RunTk
import TexSoupProofs.TokLemmas.Pass
import TexSoupProofs.TokLemmas.FirstMatch
import TexSoupProofs.TokLemmas.FirstTok
import TexSoupProofs.Properties.TableSpec
import TexSoupProofs.TokLemmas.AfterEscape
import TexSoupProofs.TokLemmas
import TexSoupProofs.Properties.C19
import TexSoupProofs.TokLemmas.InverseFirst
import TexSoupProofs.TokLemmas.InverseOK
import TexSoupProofs.TokLemmas.InverseConv
import TexSoupProofs.ExprInduct
import TexSoupProofs.Reader.Basic
import TexSoupProofs.Reader.Del
import TexSoupProofs.Reader.Intro
import TexSoupProofs.Reader.Induct
import TexSoupProofs.Reader.Mono
import TexSoupProofs.Reader.Fuel
import TexSoupProofs.Reader.ConsDefs
import TexSoupProofs.TokLemmas.Shaped
import TexSoupProofs.Properties.TokInverse
import TexSoupProofs.TokLemmas.SepFacts
import TexSoupProofs.Properties.TokFacts
import TexSoupProofs.Reader.Tolerant
import TexSoupProofs.BufSpec
import TexSoupProofs.BufLemmas
import TexSoupProofs.Properties.C20
import TexSoupProofs.Reader.ConsHelpers
import TexSoupProofs.Reader.ArgsFirst
import TexSoupProofs.Reader.Inversions
import TexSoupProofs.Reader.Cons
import TexSoupProofs.Reader.ConsTop
import TexSoupProofs.NavLemmas
import TexSoupProofs.NavPathLemmas
import TexSoupProofs.SearchLemmas
import TexSoupProofs.Properties.TestVectors
import TexSoupProofs.Properties.C03
import TexSoupProofs.Properties.C04
import TexSoupProofs.ArgsSpec
import TexSoupProofs.ArgsLemmas
import TexSoupProofs.Properties.C18
import TexSoupProofs.PosSpec
import TexSoupProofs.PosLemmas
import TexSoupProofs.Properties.C13Lines
import TexSoupProofs.Properties.C13Lines2
import TexSoupProofs.Reader.HypCheck
import TexSoupProofs.Properties.C07
import TexSoupProofs.TokLemmas.SkipPlain
import TexSoupProofs.Properties.TokHyp
import TexSoupProofs.TokLemmas.SpacerWs
import TexSoupProofs.Properties.C08
import TexSoupProofs.Properties.C16
import TexSoupProofs.Properties.C17
import TexSoupProofs.Reader.Progress
import TexSoupProofs.Reader.InductErr
import TexSoupProofs.Reader.NoInternal
import TexSoupProofs.Reader.FuelEnough
import TexSoupProofs.Reader.EscAfter
import TexSoupProofs.Reader.Classify
import TexSoupProofs.Properties.C06
import TexSoupProofs.EditLemmas
import TexSoupProofs.EditLemmasPaths
import TexSoupProofs.EditLemmasOps
import TexSoupProofs.EditLemmasMain
import TexSoupProofs.EditLemmasHist
import TexSoupProofs.EditLemmasSearch
import TexSoupProofs.EditLemmasLegacy
import TexSoupProofs.Properties.C05
import TexSoupProofs.Properties.C14
import TexSoupProofs.Properties.C15
import TexSoupProofs.Reader.Leaves
import TexSoupProofs.Properties.C09
import TexSoupProofs.Properties.C10
import TexSoupProofs.Properties.C11
import TexSoupProofs.Properties.C12
import TexSoupProofs.Properties.C01
import TexSoupProofs.Reader.Shape
import TexSoupProofs.Properties.C03C04Parsed
import TexSoupProofs.Reader.Positions
import TexSoupProofs.Properties.C13Positions
import TexSoupProofs.Complete.Induct
import TexSoupProofs.Complete.Basic
import TexSoupProofs.Complete.Seq
import TexSoupProofs.Complete.Args
import TexSoupProofs.Complete.Run
import TexSoupProofs.Complete.Cmd
import TexSoupProofs.Complete.Peek
import TexSoupProofs.Complete.Env
import TexSoupProofs.Complete.Item
import TexSoupProofs.Complete.Verb
import TexSoupProofs.Complete.Main
import TexSoupProofs.Properties.C02
import TexSoupProofs.Properties.C02Strings
import TexSoupProofs.Reader.Balance
import TexSoupProofs.Reader.EnvBalance
import TexSoupProofs.Reader.TolerantTotal
import TexSoupProofs.Properties.C07b
import TexSoupProofs.Reader.LeafSlices
import TexSoupProofs.Properties.C13Regex
import TexSoupProofs.Reader.PosFree
import TexSoupProofs.TokLemmas.CommentVar
import TexSoupProofs.TokLemmas.NextChar
import TexSoupProofs.TokLemmas.SqueezeSep
import TexSoupProofs.Complete.ParseText
import TexSoupProofs.Complete.Relabel
import TexSoupProofs.Complete.Squeeze
import TexSoupProofs.Complete.Comments
import TexSoupProofs.Complete.CommentsSep
import TexSoupProofs.Complete.SerTree
import TexSoupProofs.Complete.Canon
import TexSoupProofs.Complete.SqueezeSep
import TexSoupProofs.Properties.C16Grammar
import TexSoupProofs.Properties.C10Grammar
import TexSoupProofs.Properties.C09Grammar
import TexSoupProofs.Properties.C11Grammar
import TexSoupProofs.Properties.C12Grammar
import TexSoupProofs.Complete.Rename
import TexSoupProofs.Complete.RenameTree
import TexSoupProofs.Complete.MapSel
import TexSoupProofs.Complete.RenameEdit
import TexSoupProofs.TokLemmas.NameVar
import TexSoupProofs.Complete.RenameSep
import TexSoupProofs.Complete.SetStr
import TexSoupProofs.Complete.SetStrTree
import TexSoupProofs.TokLemmas.SegVar
import TexSoupProofs.Complete.SetStrSep
import TexSoupProofs.Complete.SetArgs
import TexSoupProofs.Properties.C14Grammar
import TexSoupProofs.Properties.C01Grammar
import TexSoupProofs.Properties.CertSound
import TexSoupProofs.Sound.Defs
import TexSoupProofs.Sound.Seq
import TexSoupProofs.Sound.Args
import TexSoupProofs.Sound.ArgsRun
import TexSoupProofs.Sound.ArgsMain
import TexSoupProofs.Sound.Item
import TexSoupProofs.Complete.ModeMonoWF
import TexSoupProofs.Reader.ModeMono
import TexSoupProofs.Sound.PeekGroup
import TexSoupProofs.Sound.Env
import TexSoupProofs.Sound.ExprHelp
import TexSoupProofs.Sound.Expr
import TexSoupProofs.Sound.Top
import TexSoupProofs.Sound.FromTokens
import TexSoupProofs.Sound.EnvNamesCheck
import TexSoupProofs.Properties.C02Sound
import TexSoupProofs.Properties.AllInputs
import TexSoupProofs.Properties.AllInputs2
import TexSoupProofs.Properties.C07Brackets
